/-
Facts about `append` and `step` of the selector state machine that do not depend on the grammar: the machine
run from any state (`runFrom`), what `count` adds, which namespace `append` resolves a saved prefix to, and
that a rejection is final.
-/
import CssVerif.Model.Selector
namespace CssVerif.Selector

def runFrom (T : Tables) (m : NsMap) (st : St) (toks : List T2) : St := toks.foldl (step T m) st

theorem runFrom_append (T : Tables) (m : NsMap) (st : St) (a b : List T2) :
    runFrom T m st (a ++ b) = runFrom T m (runFrom T m st a) b := by
  simp [runFrom, List.foldl_append]

theorem runFrom_cons (T : Tables) (m : NsMap) (st : St) (t : T2) (ts : List T2) :
    runFrom T m st (t :: ts) = runFrom T m (step T m st t) ts := rfl

theorem runFrom_nil (T : Tables) (m : NsMap) (st : St) : runFrom T m st [] = st := rfl

theorem run_eq_runFrom (T : Tables) (m : NsMap) (toks : List T2) : run T m toks = runFrom T m init toks := rfl

/-- what `count` adds for an item recorded in context `c`.  As in selector.py (`'[' == val`) the value is compared
with `[` before the item type is looked at; the side conditions `v ≠ str "["` on pseudo-elements come from here. -/
def weight (c : Ctx) (typ : IT) (name : Text) (isTuple : Bool) : Nat × Nat × Nat :=
  if c == .root || c == .negation then
    if typ == .id then (1, 0, 0)
    else if (!isTuple && name == str "[") || typ == .cls || typ == .pclass then
      (if typ != .pclass || name != str ":where(" then (0, 1, 0) else (0, 0, 0))
    else if typ == .typesel || typ == .negtypesel || typ == .pelem then (0, 0, 1)
    else (0, 0, 0)
  else (0, 0, 0)

theorem count_eq (st : St) (t : IT) (n : Text) (b : Bool) :
    count st t n b = { st with b := st.b + (weight (ctx st) t n b).1, c := st.c + (weight (ctx st) t n b).2.1,
                               d := st.d + (weight (ctx st) t n b).2.2 } := by
  simp only [count, weight]
  repeat' split
  all_goals rfl

theorem count_err (st : St) (t : IT) (n : Text) (b : Bool) : (count st t n b).firstErr = st.firstErr := by
  rw [count_eq]

/-! ### prefix resolution inside `append` -/

/-- what `append` stores for a namespaced item with saved prefix `q` (`none` = undeclared prefix) -/
def resolveO (m : NsMap) : Option Text → Option Ns
  | none => some (defaultNs m)
  | some p => if p == str "*" then some .any else if p == [] then some .empty else (nsGet m p).map .uri

/-- the namespace field of an item of type `typ` appended under saved prefix `q`: `none` = undeclared
prefix, `some none` = items of this kind carry no namespace -/
def nsFor (m : NsMap) (typ : IT) (q : Option Text) : Option (Option Ns) :=
  if typ.isSelector && !(typ == .attrsel && (q.isNone || q == some [])) then (resolveO m q).map some else some none

theorem nsFor_selector {typ : IT} (m : NsMap) (q : Option Text) (hs : typ.isSelector = true) (ha : typ ≠ .attrsel) :
    nsFor m typ q = (resolveO m q).map some := by
  rw [nsFor, hs, beq_false_of_ne ha]
  rfl

theorem nsFor_attrsel (m : NsMap) {p : Text} (h : p ≠ []) :
    nsFor m .attrsel (some p) = (resolveO m (some p)).map some := by
  simp [nsFor, IT.isSelector, h]

/-- `st` after item `⟨typ, val, ns⟩` was counted and recorded and the saved prefix used up -/
def push (st : St) (typ : IT) (val : Text) (ns : Option Ns) : St :=
  { st with pfx := none, b := st.b + (weight (ctx st) typ val ns.isSome).1,
            c := st.c + (weight (ctx st) typ val ns.isSome).2.1, d := st.d + (weight (ctx st) typ val ns.isSome).2.2,
            items := ⟨typ, val, ns⟩ :: st.items }

/-- `append` when the value is not split at a `|` -/
theorem append_eq (m : NsMap) (st : St) (val : Text) (typ : IT) (q : Option Text) (hq : st.pfx = q)
    (hs : q = none → typ = .universal → val.contains 124 = false) :
    append m st val typ =
      match nsFor m typ q with
      | none => failWith { st with pfx := none } "NamespaceErr"
      | some ns => push st typ val ns := by
  cases q with
  | none =>
    have hst : { st with pfx := none } = st := by rw [← hq]
    have hu : (typ == .universal && val.contains 124) = false := by
      by_cases h : typ = .universal
      · rw [hs rfl h, Bool.and_false]
      · rw [beq_false_of_ne h, Bool.false_and]
    simp only [append, hq, hu, nsFor, resolveO, Bool.false_eq_true, if_false, count_eq, push, hst]
    cases typ.isSelector && !(typ == .attrsel && ((none : Option Text).isNone || (none : Option Text) == some []))
      <;> rfl
  | some p =>
    simp only [append, hq, nsFor, resolveO, count_eq, push]
    cases typ.isSelector && !(typ == .attrsel && ((some p).isNone || some p == some []))
    · rfl
    · cases p == str "*"
      · cases p == []
        · cases nsGet m p <;> rfl
        · rfl
      · rfl

theorem append_ok {m : NsMap} {st : St} {val : Text} {typ : IT} {q : Option Text} {ns : Option Ns}
    (hq : st.pfx = q) (hs : q = none → typ = .universal → val.contains 124 = false)
    (hn : nsFor m typ q = some ns) : append m st val typ = push st typ val ns := by
  rw [append_eq m st val typ q hq hs, hn]

theorem append_plain {m : NsMap} {st : St} {typ : IT} (hp : st.pfx = none) (ht : typ.isSelector = false) (v : Text) :
    append m st v typ = push st typ v none :=
  append_ok hp (fun _ hu => by rw [hu] at ht; cases ht) (by rw [nsFor, ht]; rfl)

theorem findIdx_bar (p : Text) (h : p.contains 124 = false) (rest : Text) :
    (p ++ 124 :: rest).findIdx? (· == 124) = some p.length := by
  rw [List.findIdx?_append, List.findIdx?_eq_none_iff.mpr fun c hc => by
    simpa using fun e : c = 124 => by simp [← e, hc] at h]
  simp [List.findIdx?_cons]

/-- a prefix written inside the value of a universal selector acts like a saved one -/
theorem append_bar (m : NsMap) (st : St) (p name : Text) (hq : st.pfx = none) (hp : p.contains 124 = false) :
    append m st (p ++ 124 :: name) .universal = append m { st with pfx := some p } name .universal := by
  have hst : { st with pfx := none } = st := by rw [← hq]
  have hc : (p ++ 124 :: name).contains 124 = true := by simp
  have hd : (p ++ 124 :: name).drop (p.length + 1) = name := by
    rw [← List.drop_drop, List.drop_left]
    rfl
  simp only [append, hq, hc, findIdx_bar p hp name, Option.getD_some, List.take_left, hd, hst, beq_self_eq_true,
    Bool.and_self, if_true]

/-- a type selector (also inside `:not()`) with saved prefix `q`: the item carries the URI the prefix
denotes in `m` — or the selector is rejected with NamespaceErr when the prefix is not declared -/
theorem append_type (m : NsMap) (st : St) (val : Text) (typ : IT) (q : Option Text)
    (hq : st.pfx = q) (ht : typ = .typesel ∨ typ = .negtypesel) :
    match resolveO m q with
    | some ns => (append m st val typ).items = ⟨typ, val, some ns⟩ :: st.items ∧
        (append m st val typ).wellformed = st.wellformed
    | none => (append m st val typ).wellformed = false ∧ (append m st val typ).items = st.items ∧
        (append m st val typ).firstErr = (if st.firstErr == "" then "NamespaceErr" else st.firstErr) := by
  have hn : nsFor m typ q = (resolveO m q).map some := by
    rcases ht with rfl | rfl <;> exact nsFor_selector m q rfl nofun
  rw [append_eq m st val typ q hq (by rcases ht with rfl | rfl <;> exact fun _ h => nomatch h), hn]
  cases resolveO m q with
  | none => exact ⟨rfl, rfl, rfl⟩
  | some ns => exact ⟨rfl, rfl⟩

/-- the attribute name: not namespaced without a prefix or with the empty prefix -/
theorem append_attr (m : NsMap) (st : St) (val : Text) (q : Option Text) (hq : st.pfx = q) :
    match q with
    | none => (append m st val .attrsel).items = ⟨.attrsel, val, none⟩ :: st.items
    | some p =>
      if p = [] then (append m st val .attrsel).items = ⟨.attrsel, val, none⟩ :: st.items
      else match resolveO m (some p) with
        | some ns => (append m st val .attrsel).items = ⟨.attrsel, val, some ns⟩ :: st.items
        | none => (append m st val .attrsel).wellformed = false := by
  have he := append_eq m st val .attrsel q hq (fun _ h => nomatch h)
  cases q with
  | none =>
    rw [he]
    rfl
  | some p =>
    show if p = [] then _ else _
    by_cases h2 : p = []
    · rw [if_pos h2, he, h2]
      rfl
    · rw [if_neg h2, he, nsFor_attrsel m h2]
      cases resolveO m (some p) <;> rfl

/-! ### a rejection is final -/

/-- `s` is well-formed only if `st` is: a rejection of `st` is not taken back on the way to `s` -/
def WfOnlyIf (s st : St) : Prop := s.wellformed = true → st.wellformed = true

namespace WfOnlyIf
variable {s a b st : St}

theorem rfl : WfOnlyIf st st := id

theorem ret {e : Text} (h : WfOnlyIf s st) : WfOnlyIf (ret s e) st := h

theorem savePrefix {v : Text} (h : WfOnlyIf s st) : WfOnlyIf (savePrefix s v) st := h

theorem context {k : List Ctx} (h : WfOnlyIf s st) : WfOnlyIf { s with context := k } st := h

theorem items {l : List Item} (h : WfOnlyIf s st) : WfOnlyIf { s with items := l } st := h

theorem failWith {e : String} : WfOnlyIf (failWith s e) st := fun h => nomatch h

theorem fail : WfOnlyIf (fail s) st := fun h => nomatch h

theorem ite {c : Prop} [Decidable c] (ha : WfOnlyIf a st) (hb : WfOnlyIf b st) : WfOnlyIf (if c then a else b) st := by
  split <;> assumption

theorem append {m : NsMap} {v : Text} {t : IT} (h : WfOnlyIf s st) : WfOnlyIf (append m s v t) st := by
  -- whichever way `append` ends, by `failWith` or by recording the item, the flag is not raised
  have tail : ∀ (s' : St) (name : Text) (res : Option (Option Ns)),
      WfOnlyIf (match res with
        | none => Selector.failWith s' "NamespaceErr"
        | some ns => { count s' t name ns.isSome with
            items := ⟨t, name, ns⟩ :: (count s' t name ns.isSome).items }) s' := by
    intro s' name res
    cases res with
    | none => exact failWith
    | some ns => exact fun h => (congrArg St.wellformed (count_eq s' t name ns.isSome)).symm.trans h
  intro h'
  have h2 := tail _ _ _ h'
  cases hp : s.pfx with
  | none =>
    simp only [hp] at h2
    split at h2 <;> exact h h2
  | some p =>
    rw [hp] at h2
    exact h h2

end WfOnlyIf

theorem ret_wf (st : St) (e : Text) : (ret st e).wellformed = st.wellformed := rfl

theorem stepChar_wf (m : NsMap) (st : St) (v : Text) : WfOnlyIf (stepChar m st v) st := by
  unfold stepChar
  refine .ite (.ite (.ret (.context (.append .rfl))) (.ret (.context (.append .rfl)))) <|
    .ite (.ret (.append .rfl)) <|
    .ite (.ret (.context (.append .rfl))) <|
    .ite ?_ <|
    .ite (.ite (.ret (.context (.append .rfl)))
      (.ite (.ret (.context (.append .rfl))) (.ret (.context (.append .rfl))))) <|
    .ite (.ret (.context (.append .rfl))) <|
    .ite ?_ <|
    .ite .failWith .fail
  all_goals
    cases st.items with
    | nil => exact .ret (.append .rfl)
    | cons last rest => exact .ite (.ret (.items .rfl)) (.ret (.append .rfl))

theorem step_wf (T : Tables) (m : NsMap) (st : St) : ∀ t : T2, WfOnlyIf (step T m st t) st
  | (.comment, _) => .append .rfl
  | (.s, _) => by
    refine .ite ?_ (.ite (.ret (.append .rfl)) .rfl)
    cases st.items with
    | nil => exact .rfl
    | cons last _ => exact .ite (.append .rfl) .rfl
  | (.universal, _) => .ite (.ite (.ret (.append .rfl)) (.ret (.append .rfl))) .fail
  | (.nsprefix, _) => .ite (.ret (.savePrefix .rfl)) (.ite (.ret (.savePrefix .rfl)) .fail)
  | (.pclass, _) | (.pelem, _) =>
    .ite (.ite (.ret (.context (.append .rfl)))
      (.ite (.ret (.append .rfl)) (.ite (.ret (.append .rfl)) (.ret (.append .rfl))))) .fail
  | (.number, _) | (.dimension, _) => .ite (.ret (.append .rfl)) .fail
  | (.prefixmatch, _) | (.suffixmatch, _) | (.substringmatch, _) | (.dashmatch, _) | (.includes, _) =>
    .ite (.ret (.append .rfl)) .fail
  | (.string, _) => .ite (.ret (.append .rfl)) (.ite (.ret (.append .rfl)) .fail)
  | (.ident, _) =>
    .ite (.ret (.append .rfl)) <| .ite (.ret (.append .rfl)) <| .ite (.ret (.append .rfl)) <|
      .ite (.ret (.append .rfl)) <| .ite (.ret (.append .rfl)) .fail
  | (.cls, _) | (.hash, _) => .ite (.ite (.ret (.append .rfl)) (.ret (.append .rfl))) .fail
  | (.negation, _) => .ite (.ret (.append (.context .rfl))) .fail
  | (.atkw, _) | (.func, _) | (.other, _) => .fail
  | (.char, v) => stepChar_wf m st v

/-- once an error was logged the selector stays rejected, whatever follows -/
theorem run_wf (T : Tables) (m : NsMap) (toks : List T2) (st : St) : WfOnlyIf (runFrom T m st toks) st := by
  induction toks generalizing st with
  | nil => exact id
  | cons t ts ih =>
    intro h
    exact step_wf T m st t (ih _ h)

theorem finish_wf (st : St) : (finish st).wellformed = true → st.wellformed = true := by
  simp only [finish]
  intro h
  simp only [Bool.and_eq_true] at h
  exact h.1.1.1

end CssVerif.Selector
