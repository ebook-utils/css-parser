/-
The tokenizer's `\hex` rewrite, as the model runs it (`unicodeSub`: `re.sub` with the regenerated
regular expression `unicodesub` and the replacement function `_repl`), equals the specification
`Escape.cssUnescape` (backslash, up to six hex digits taken greedily, one optional white-space
character, `\r\n` counting as one) on EVERY text.
-/
import CssVerif.Proofs.ClassifyMore
import CssVerif.Gen.Productions
import CssVerif.Proofs.Escape
namespace CssVerif
open Re

def hexC : Re := .cls false [(48, 57), (97, 102), (65, 70)]

theorem inRanges_hexC (c : Nat) : inRanges c [(48, 57), (97, 102), (65, 70)] = isHex c := by
  simp only [inRanges, isHex, Bool.or_false]
  ac_rfl

theorem test_hexC : IsTest hexC isHex := (isTest_cls _ _).congr inRanges_hexC

/-- the model's hex tests and the specification's agree -/
theorem escape_hexVal (c : Nat) : Escape.hexVal c = if isHex c = true then some (hexVal c) else none := by
  simp only [Escape.hexVal, isHex, hexVal, Bool.or_eq_true, Bool.and_eq_true, decide_eq_true_eq]
  by_cases h1 : 48 ≤ c ∧ c ≤ 57
  · simp [h1]
  · by_cases h2 : 65 ≤ c ∧ c ≤ 70
    · simp [h1, h2]
    · by_cases h3 : 97 ≤ c ∧ c ≤ 102
      · simp [h1, h2, h3]
      · simp [h1, h2, h3]

theorem escape_isWs (c : Nat) : Escape.isWs c = isWsC c := by
  simp only [Escape.isWs, isWsC, Bool.beq_eq_decide_eq]
  ac_rfl

theorem isHex_not_ws {c : Nat} (h : isWsC c = true) : isHex c = false := by
  simp only [isWsC, Bool.or_eq_true, decide_eq_true_eq] at h
  rcases h with (((h | h) | h) | h) | h <;> subst h <;> rfl

/-- `h`, `h h?`, `h (h h?)?`, …: one to `k + 1` hex digits, greedy -/
def hx : Nat → Re
  | 0 => hexC
  | k + 1 => .seq hexC (.opt (hx k))

def dropHex : Nat → Text → Text
  | 0, s => s
  | _ + 1, [] => []
  | k + 1, c :: s => if isHex c = true then dropHex k s else c :: s

def takeHexPre : Nat → Text → Text
  | 0, _ => []
  | _ + 1, [] => []
  | k + 1, c :: s => if isHex c = true then c :: takeHexPre k s else []

theorem takeHexPre_append : ∀ (k : Nat) (s : Text), takeHexPre k s ++ dropHex k s = s := by
  intro k
  induction k with
  | zero => intro s; rfl
  | succ k ih =>
    intro s
    cases s with
    | nil => rfl
    | cons c s =>
      simp only [takeHexPre, dropHex]
      split
      · simp [ih s]
      · rfl

theorem takeHexPre_hex : ∀ (k : Nat) (s : Text), ∀ x ∈ takeHexPre k s, isHex x = true := by
  intro k
  induction k with
  | zero => intro s x hx; cases hx
  | succ k ih =>
    intro s x hx
    cases s with
    | nil => cases hx
    | cons c s =>
      simp only [takeHexPre] at hx
      split at hx
      · rename_i hc
        rcases List.mem_cons.mp hx with rfl | h
        · exact hc
        · exact ih s x h
      · cases hx

theorem ms_opt_hx_head : ∀ (k : Nat) (s : Text), (ms (.opt (hx k)) s).head? = some (dropHex (k + 1) s) := by
  intro k
  induction k with
  | zero =>
    intro s
    show (ms hexC s ++ [s]).head? = _
    cases s with
    | nil => rfl
    | cons c t =>
      rw [test_hexC.cons]
      cases hc : isHex c <;> simp [dropHex, hc]
  | succ k ih =>
    intro s
    show (ms (.seq hexC (.opt (hx k))) s ++ [s]).head? = _
    cases s with
    | nil => rfl
    | cons c t =>
      cases hc : isHex c with
      | true =>
        rw [test_hexC.seq_pos hc, List.head?_append, ih t]
        simp [dropHex, hc]
      | false =>
        rw [test_hexC.seq_stop _ _ (head_cons hc)]
        simp [dropHex, hc]

/-- `\r\n | [ \t\r\n\f]` -/
def termRe : Re := .alt (.seq (.cls false [(13, 13)]) (.cls false [(10, 10)])) wsR

/-- the text after the optional white space that ends an escape -/
def afterWs : Text → Text
  | [] => []
  | [w] => if isWsC w = true then [] else [w]
  | w :: x :: r => if w = 13 ∧ x = 10 then r else if isWsC w = true then x :: r else w :: x :: r

def wsPart : Text → Text
  | [] => []
  | [w] => if isWsC w = true then [w] else []
  | w :: x :: _ => if w = 13 ∧ x = 10 then [13, 10] else if isWsC w = true then [w] else []

theorem wsPart_append (u : Text) : wsPart u ++ afterWs u = u := by
  match u with
  | [] => rfl
  | [w] => by_cases h : isWsC w = true <;> simp [wsPart, afterWs, h]
  | w :: x :: r =>
    by_cases h1 : w = 13 ∧ x = 10
    · obtain ⟨rfl, rfl⟩ := h1; simp [wsPart, afterWs]
    · by_cases h : isWsC w = true <;> simp [wsPart, afterWs, h, h1]

theorem wsPart_head_not_hex (u : Text) : ∀ d ∈ (wsPart u).head?, isHex d = false := by
  intro d hd
  match u with
  | [] => cases hd
  | [w] =>
    by_cases h : isWsC w = true
    · simp [wsPart, h] at hd; subst hd; exact isHex_not_ws h
    · simp [wsPart, h] at hd
  | w :: x :: r =>
    by_cases h1 : w = 13 ∧ x = 10
    · simp [wsPart, h1] at hd; subst hd; rfl
    · by_cases h : isWsC w = true
      · simp [wsPart, h, h1] at hd; subst hd; exact isHex_not_ws h
      · simp [wsPart, h, h1] at hd

theorem ms_opt_term_head (u : Text) : (ms (.opt termRe) u).head? = some (afterWs u) := by
  show (ms termRe u ++ [u]).head? = _
  unfold termRe
  rw [ms_alt, ms_lit_seq]
  match u with
  | [] => simp [test_ws.nil, afterWs]
  | [w] =>
    by_cases h : isWsC w = true
    · by_cases h13 : w = 13
      · subst h13; simp [ms_lit, test_ws.pos h, afterWs, h]
      · simp [h13, test_ws.pos h, afterWs, h]
    · have h' : isWsC w = false := by simpa using h
      have h13 : w ≠ 13 := by intro e; subst e; simp [isWsC] at h
      simp [h13, test_ws.neg h', afterWs, h']
  | w :: x :: r =>
    by_cases h13 : w = 13
    · subst h13
      have hws : isWsC 13 = true := rfl
      by_cases h10 : x = 10
      · subst h10; simp [ms_lit, afterWs]
      · simp [ms_lit, h10, test_ws.pos hws, afterWs, hws]
    · by_cases h : isWsC w = true
      · simp [h13, test_ws.pos h, afterWs, h]
      · have h' : isWsC w = false := by simpa using h
        simp [h13, test_ws.neg h', afterWs, h']

/-- obligation on the regenerated table: `unicodesub` is `\\ h (h (h (h (h h?)?)?)?)? (\r\n|[ \t\r\n\f])?` -/
theorem gen_unicodesub_shape :
    Gen.tables.unicodesub = .seq bsR (.seq hexC (.seq (.opt (hx 4)) (.opt termRe))) := rfl

/-- `re.match(unicodesub, …)` at a backslash: it matches iff a hex digit follows, and then takes up to
six of them and the optional terminator -/
theorem exec_unicodesub (s : Text) :
    exec Gen.tables.unicodesub (92 :: s) =
      if (takeHexPre 6 s) = [] then none else some (afterWs (dropHex 6 s)) := by
  rw [gen_unicodesub_shape, exec_eq_head, test_bs.seq_pos (by rfl)]
  cases s with
  | nil => simp [ms_seq_nil_left _ _ _ test_hexC.nil, takeHexPre]
  | cons c t =>
    by_cases hc : isHex c = true
    · rw [test_hexC.seq_pos hc, ms_seq]
      rw [head?_flatMap_of_head (ms_opt_hx_head 4 t) (ms_opt_term_head _)]
      simp [takeHexPre, dropHex, hc]
    · have hc' : isHex c = false := by simpa using hc
      simp [ms_seq_nil_left _ _ _ (test_hexC.neg hc' t), takeHexPre, hc']

def hexFold (acc : Nat) (t : Text) : Nat := t.foldl (fun a c => 16 * a + hexVal c) acc

theorem takeHex_spec : ∀ (k acc n : Nat) (s : Text),
    Escape.takeHex k acc n s = (hexFold acc (takeHexPre k s), n + (takeHexPre k s).length, dropHex k s) := by
  intro k
  induction k with
  | zero => intro acc n s; simp [Escape.takeHex, takeHexPre, dropHex, hexFold]
  | succ k ih =>
    intro acc n s
    cases s with
    | nil => simp [Escape.takeHex, takeHexPre, dropHex, hexFold]
    | cons c s =>
      simp only [Escape.takeHex, escape_hexVal]
      by_cases hc : isHex c = true
      · simp only [hc, if_true, takeHexPre, dropHex, ih]
        simp only [hexFold, List.foldl_cons, List.length_cons, Nat.mul_comm acc 16]
        congr 2
        omega
      · simp [hc, takeHexPre, dropHex, hexFold]

theorem hexNum_pre (pre w : Text) (hpre : ∀ x ∈ pre, isHex x = true) (hw : ∀ d ∈ w.head?, isHex d = false) :
    hexNum (pre ++ w) = hexFold 0 pre := by
  have : (pre ++ w).takeWhile isHex = pre := by
    induction pre with
    | nil =>
      cases w with
      | nil => rfl
      | cons d r => simp [hw d (by simp)]
    | cons x xs ih =>
      simp only [List.cons_append, List.takeWhile, hpre x List.mem_cons_self]
      rw [ih (fun y hy => hpre y (List.mem_cons_of_mem _ hy))]
  simp [hexNum, this, hexFold]

theorem unescape_bs (a : Nat) (s : Text) :
    Escape.unescape (a + 1) (92 :: s) =
      if takeHexPre 6 s = [] then 92 :: Escape.unescape a s
      else (if hexFold 0 (takeHexPre 6 s) ≤ 0x10FFFF then [hexFold 0 (takeHexPre 6 s)]
            else 92 :: takeHexPre 6 s ++ wsPart (dropHex 6 s)) ++ Escape.unescape a (afterWs (dropHex 6 s)) := by
  have htake : s.take (takeHexPre 6 s).length = takeHexPre 6 s := by
    have := List.take_left' (l₁ := takeHexPre 6 s) (l₂ := dropHex 6 s) rfl
    rwa [takeHexPre_append] at this
  simp only [Escape.unescape, takeHex_spec, Nat.zero_add, List.length_eq_zero_iff, htake]
  by_cases h0 : takeHexPre 6 s = []
  · simp [h0]
  · simp only [h0, if_false]
    generalize dropHex 6 s = u
    have hwa : ∀ (w : Nat) (r : Text), (∀ r', w = 13 → r = 10 :: r' → False) →
        wsPart (w :: r) = (if Escape.isWs w = true then [w] else []) ∧
        afterWs (w :: r) = (if Escape.isWs w = true then r else w :: r) := by
      intro w r hne
      rw [escape_isWs]
      cases r with
      | nil => by_cases h : isWsC w = true <;> simp [wsPart, afterWs, h]
      | cons x r' =>
        have h1 : ¬ (w = 13 ∧ x = 10) := by rintro ⟨rfl, rfl⟩; exact hne r' rfl rfl
        by_cases h : isWsC w = true <;> simp [wsPart, afterWs, h, h1]
    by_cases hv : hexFold 0 (takeHexPre 6 s) ≤ 1114111
    · simp only [hv, if_true]
      split
      · simp [afterWs]
      · rename_i w r hne
        rw [(hwa w r hne).2]
        by_cases h : Escape.isWs w = true <;> simp [h]
      · simp [afterWs]
    · simp only [hv, if_false]
      split
      · simp [wsPart, afterWs]
      · rename_i w r hne
        rw [(hwa w r hne).1, (hwa w r hne).2]
        by_cases h : Escape.isWs w = true <;> simp [h]
      · simp [wsPart, afterWs]

theorem take_escape (s : Text) :
    List.take (s.length + 1 - (afterWs (dropHex 6 s)).length) (92 :: s) =
      92 :: takeHexPre 6 s ++ wsPart (dropHex 6 s) := by
  have e : (92 :: takeHexPre 6 s ++ wsPart (dropHex 6 s)) ++ afterWs (dropHex 6 s) = 92 :: s := by
    simp only [List.cons_append, List.append_assoc, wsPart_append, takeHexPre_append]
  have hl : s.length + 1 - (afterWs (dropHex 6 s)).length = (92 :: takeHexPre 6 s ++ wsPart (dropHex 6 s)).length := by
    have := congrArg List.length e
    simp only [List.length_append, List.length_cons] at this ⊢
    omega
  rw [hl]
  conv => lhs; rw [← e]
  exact List.take_left' rfl

theorem reSub_unescape : ∀ (b a : Nat) (s : Text), s.length ≤ b → s.length ≤ a →
    reSub Gen.tables.unicodesub hexRepl b s = Escape.unescape a s := by
  intro b
  induction b with
  | zero =>
    intro a s hb _
    have : s = [] := List.eq_nil_of_length_eq_zero (by omega)
    subst this
    rw [unescape_nil]; rfl
  | succ b ih =>
    intro a s hb ha
    cases s with
    | nil => rw [unescape_nil]; rfl
    | cons c s =>
      obtain ⟨a, rfl⟩ : ∃ a', a = a' + 1 := ⟨a - 1, by simp at ha; omega⟩
      simp only [List.length_cons, Nat.add_le_add_iff_right] at hb ha
      by_cases hc : c = 92
      · subst hc
        rw [unescape_bs]
        simp only [reSub, exec_unicodesub]
        by_cases h0 : takeHexPre 6 s = []
        · simp only [h0, if_true]
          rw [ih a s hb ha]
        · have hlen : (afterWs (dropHex 6 s)).length ≤ s.length := by
            have h1 := congrArg List.length (wsPart_append (dropHex 6 s))
            have h2 := congrArg List.length (takeHexPre_append 6 s)
            simp only [List.length_append] at h1 h2
            omega
          simp only [h0, if_false, List.length_cons]
          rw [if_pos (by omega), take_escape, ih a _ (by omega) (by omega)]
          congr 1
          simp only [hexRepl, List.cons_append, List.drop_succ_cons, List.drop_zero]
          rw [hexNum_pre _ _ (takeHexPre_hex 6 s) (wsPart_head_not_hex _)]
      · have hnone : exec Gen.tables.unicodesub (c :: s) = none := exec_backslash_none _ (by decide) c s hc
        simp only [reSub, hnone]
        rw [Escape.unescape_plain a c s hc, ih a s hb ha]

theorem unicodeSub_eq_cssUnescape (s : Text) : unicodeSub Gen.tables s = Escape.cssUnescape s :=
  reSub_unescape s.length (s.length + 1) s (Nat.le_refl _) (Nat.le_succ _)

end CssVerif
