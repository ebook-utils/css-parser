/-
The editing operations of the sheet model, each described once (`insertRule` as `refuses` / `addPlace` / `commit`
with its `Outcome`s, `deleteRule_shape`, one round of the clean-up loop, one statement of the parser), the
inductions over operations, statements and histories that carry an invariant through them, and the invariant
`Valid`: preserved by every operation; rejected operations leave the rule list unchanged.
-/
import CssVerif.Model.Sheet
namespace CssVerif.Sheet

abbrev lv (r : Rule) : Option Nat := lvl r.kind

theorem lv_of_kind {r : Rule} {k : Kind} (h : r.kind = k) : lv r = lvl k := congrArg lvl h

def lvLe (m : Nat) (l : Sheet) : Prop := ∀ x ∈ l, ∀ n, lv x = some n → n ≤ m

def lvGe (m : Nat) (l : Sheet) : Prop := ∀ x ∈ l, ∀ n, lv x = some n → m ≤ n

theorem lvLe_of_forall {m : Nat} {l : Sheet} (h : ∀ x ∈ l, ∀ n, lv x = some n → n ≤ m) : lvLe m l := h

theorem lvGe_of_forall {m : Nat} {l : Sheet} (h : ∀ x ∈ l, ∀ n, lv x = some n → m ≤ n) : lvGe m l := h

theorem lvLe_mono {m k : Nat} (h : m ≤ k) {l : Sheet} (hl : lvLe m l) : lvLe k l :=
  fun x hx n hn => Nat.le_trans (hl x hx n hn) h

theorem lvGe_mono {m k : Nat} (h : k ≤ m) {l : Sheet} (hl : lvGe m l) : lvGe k l :=
  fun x hx n hn => Nat.le_trans h (hl x hx n hn)

theorem lvLe_append {m : Nat} {a b : Sheet} (ha : lvLe m a) (hb : lvLe m b) : lvLe m (a ++ b) := by
  intro x hx; rcases List.mem_append.mp hx with h | h; exact ha x h; exact hb x h

theorem lvGe_append {m : Nat} {a b : Sheet} (ha : lvGe m a) (hb : lvGe m b) : lvGe m (a ++ b) := by
  intro x hx; rcases List.mem_append.mp hx with h | h; exact ha x h; exact hb x h

def kinds : List Kind :=
  [.unknown, .style, .charset, .import, .media, .fontface, .page, .namespace, .comment, .variables, .margin]

theorem mem_kinds (k : Kind) : k ∈ kinds := by cases k <;> decide

/-- level facts are read off the table `lvl`: if every kind outside `ks` has no level or one with `P`
(a closed Boolean, checked by evaluation), so has every rule whose kind is not in `ks` -/
theorem lv_outside (ks : List Kind) (P : Nat → Prop) [DecidablePred P]
    (h : (kinds.all fun k => ks.contains k || (lvl k).all (P ·)) = true) {x : Rule} (hx : x.kind ∉ ks)
    {n : Nat} (hn : lv x = some n) : P n := by
  have := List.all_eq_true.1 h x.kind (mem_kinds _)
  rw [show ks.contains x.kind = false by simpa using hx, show lvl x.kind = some n from hn] at this
  simpa using this

def lvl3Kinds : List Kind := [.media, .page, .style, .fontface]

theorem lv_eq_three_iff {x : Rule} : lv x = some 3 ↔ x.kind ∈ lvl3Kinds := by
  refine ⟨fun h => Decidable.byContradiction fun hx => lv_outside _ (· ≠ 3) rfl hx h rfl, fun h => ?_⟩
  simp only [lvl3Kinds, List.mem_cons, List.not_mem_nil, or_false] at h
  rcases h with h | h | h | h <;> exact lv_of_kind h

theorem lv_le_two_of' (x : Rule) (hx : x.kind ∉ [Kind.media, .page, .style, .fontface]) (n : Nat)
    (h : lv x = some n) : n ≤ 2 := lv_outside _ (· ≤ 2) rfl hx h

theorem lvGe_one (l : Sheet) : lvGe 1 l := fun _ _ _ hn => lv_outside [] (1 ≤ ·) rfl List.not_mem_nil hn

theorem lvLe_three (l : Sheet) : lvLe 3 l := fun _ _ _ hn => lv_outside [] (· ≤ 3) rfl List.not_mem_nil hn

theorem insertAt_eq (s : Sheet) (i : Nat) (r : Rule) : insertAt s i r = s.take i ++ r :: s.drop i := rfl

theorem insertAt_append (A B : Sheet) (r : Rule) : insertAt (A ++ B) A.length r = A ++ r :: B := by
  simp [insertAt]

theorem insertAt_length (acc : Sheet) (r : Rule) : insertAt acc acc.length r = acc ++ [r] := by
  simp [insertAt]

theorem insertAt_zero (s : Sheet) (r : Rule) : insertAt s 0 r = r :: s := by simp [insertAt]

theorem mem_insertAt {s : Sheet} {j : Nat} {r x : Rule} : x ∈ insertAt s j r ↔ x ∈ s ∨ x = r := by
  conv => rhs; rw [← List.take_append_drop j s]
  simp only [insertAt, List.mem_append, List.mem_cons, or_assoc, or_comm]

theorem filter_insertAt (p : Rule → Bool) (s : Sheet) (j : Nat) {r : Rule} (h : p r = false) :
    (insertAt s j r).filter p = s.filter p := by
  simp only [insertAt, List.filter_append, List.filter_cons, h, Bool.false_eq_true, if_false]
  rw [← List.filter_append, List.take_append_drop]

theorem split_at {α} (s : List α) (i : Nat) (r : α) (hi : s[i]? = some r) :
    ∃ A B, s = A ++ r :: B ∧ s.eraseIdx i = A ++ B ∧ A.length = i := by
  obtain ⟨hlt, hr⟩ := List.getElem?_eq_some_iff.1 hi
  refine ⟨s.take i, s.drop (i + 1), ?_, List.eraseIdx_eq_take_drop_succ s i, ?_⟩
  · rw [← hr, ← List.drop_eq_getElem_cons hlt, List.take_append_drop]
  · rw [List.length_take]; omega

theorem filter_eraseIdx (p : Rule → Bool) {s : Sheet} {i : Nat} {r : Rule} (hi : s[i]? = some r) (h : p r = false) :
    (s.eraseIdx i).filter p = s.filter p := by
  obtain ⟨A, B, rfl, he, _⟩ := split_at s i r hi
  simp only [he, List.filter_append, List.filter_cons, h, Bool.false_eq_true, if_false]

theorem isKind_true {k : Kind} {x : Rule} (h : isKind k x = true) : x.kind = k := by
  simpa [isKind] using h

theorem isKind_false {k : Kind} {x : Rule} (h : isKind k x = false) : x.kind ≠ k := by
  simpa [isKind] using h

theorem kindIn_true {ks : List Kind} {x : Rule} (h : kindIn ks x = true) : x.kind ∈ ks := by
  simpa [kindIn] using h

theorem kindIn_false {ks : List Kind} {x : Rule} (h : kindIn ks x = false) : x.kind ∉ ks := by
  simpa [kindIn] using h

theorem any_kindIn_false {l : Sheet} {ks : List Kind} : l.any (kindIn ks) = false ↔ ∀ x ∈ l, x.kind ∉ ks := by
  simp [kindIn]

theorem headIs_false_iff {s : Sheet} {k : Kind} : headIs s k = false ↔ ∀ h ∈ s.head?, h.kind ≠ k := by
  unfold headIs
  cases s with
  | nil => simp
  | cons h t => simp

theorem headIs_of_length_eq_zero {s : Sheet} (k : Kind) (h : s.length = 0) : headIs s k = false := by
  cases s with
  | nil => rfl
  | cons x t => cases h

/-! ### `Valid` under sublists and insertion -/

theorem valid_of_sublist {s s' : Sheet} (h : s'.Sublist s) (hv : Valid s) : Valid s' := by
  refine ⟨?_, ?_⟩
  · intro r hr
    exact hv.1 r ((List.Sublist.tail h).subset hr)
  · exact List.Pairwise.sublist (List.Sublist.filterMap _ h) hv.2

theorem valid_nil : Valid [] := by
  refine ⟨?_, ?_⟩
  · intro r hr; cases hr
  · simp

theorem valid_of_kinds {s s' : Sheet} (h : s'.map (·.kind) = s.map (·.kind)) (hv : Valid s) : Valid s' := by
  have hfm : ∀ (l : Sheet), l.filterMap lv = (l.map (·.kind)).filterMap lvl :=
    fun l => (List.filterMap_map (f := fun x : Rule => x.kind) (g := lvl) (l := l)).symm
  refine ⟨?_, ?_⟩
  · intro r hr hk
    have h2 : s'.tail.map (·.kind) = s.tail.map (·.kind) := by
      rw [List.map_tail, List.map_tail, h]
    have : Kind.charset ∈ s.tail.map (·.kind) := by
      rw [← h2]; exact List.mem_map.mpr ⟨r, hr, hk⟩
    obtain ⟨y, hy, hyk⟩ := List.mem_map.mp this
    exact hv.1 y hy hyk
  · rw [hfm, h, ← hfm]; exact hv.2

theorem filterMap_pairwise_append {a b : Sheet} :
    ((a ++ b).filterMap lv).Pairwise (· ≤ ·) ↔
      (a.filterMap lv).Pairwise (· ≤ ·) ∧ (b.filterMap lv).Pairwise (· ≤ ·) ∧
      ∀ x ∈ a, ∀ y ∈ b, ∀ n m, lv x = some n → lv y = some m → n ≤ m := by
  rw [List.filterMap_append, List.pairwise_append]
  constructor
  · rintro ⟨h1, h2, h3⟩
    refine ⟨h1, h2, ?_⟩
    intro x hx y hy n m hn hm
    exact h3 n (List.mem_filterMap.mpr ⟨x, hx, hn⟩) m (List.mem_filterMap.mpr ⟨y, hy, hm⟩)
  · rintro ⟨h1, h2, h3⟩
    refine ⟨h1, h2, ?_⟩
    intro n hn m hm
    obtain ⟨x, hx, hxn⟩ := List.mem_filterMap.mp hn
    obtain ⟨y, hy, hym⟩ := List.mem_filterMap.mp hm
    exact h3 x hx y hy n m hxn hym

theorem filterMap_pairwise_cons {x : Rule} {b : Sheet} :
    ((x :: b).filterMap lv).Pairwise (· ≤ ·) ↔
      (b.filterMap lv).Pairwise (· ≤ ·) ∧ ∀ y ∈ b, ∀ n m, lv x = some n → lv y = some m → n ≤ m := by
  have h := filterMap_pairwise_append (a := [x]) (b := b)
  simp only [List.singleton_append, List.mem_singleton, forall_eq] at h
  rw [h]
  exact and_iff_right (by cases hx : lv x <;> simp [hx])

theorem pivot {a b : Sheet} {x : Rule} {m : Nat} (hv : Valid (a ++ x :: b)) (hx : lv x = some m) :
    lvLe m a ∧ lvGe m b := by
  have h := filterMap_pairwise_append.mp hv.2
  rw [filterMap_pairwise_cons] at h
  exact ⟨fun y hy n hn => h.2.2 y hy x List.mem_cons_self n m hn hx, fun y hy n hn => h.2.1.2 y hy m n hx hn⟩

theorem valid_insert {a b : Sheet} {r : Rule} (hv : Valid (a ++ b)) (hk : r.kind ≠ .charset)
    (hb : a = [] → ∀ h ∈ b.head?, h.kind ≠ .charset)
    (hl : ∀ m, lv r = some m → lvLe m a ∧ lvGe m b) : Valid (a ++ r :: b) := by
  refine ⟨?_, ?_⟩
  · cases a with
    | nil =>
      simp only [List.nil_append, List.tail_cons]
      intro x hx
      cases b with
      | nil => cases hx
      | cons h t =>
        rcases List.mem_cons.mp hx with rfl | hx'
        · exact hb rfl x (by simp)
        · exact hv.1 x (by simpa using hx')
    | cons y a' =>
      simp only [List.cons_append, List.tail_cons]
      intro x hx
      rcases List.mem_append.mp hx with h | h
      · exact hv.1 x (by simp [h])
      · rcases List.mem_cons.mp h with rfl | h'
        · exact hk
        · exact hv.1 x (by simp [h'])
  · obtain ⟨h1, h2, h3⟩ := filterMap_pairwise_append.mp hv.2
    rw [filterMap_pairwise_append, filterMap_pairwise_cons]
    refine ⟨h1, ⟨h2, fun y hy n m hn hm => (hl n hn).2 y hy m hm⟩, fun x hx y hy n m hn hm => ?_⟩
    rcases List.mem_cons.mp hy with rfl | hy'
    · exact (hl m hm).1 x hx n hn
    · exact h3 x hx y hy' n m hn hm

theorem valid_insertAt {s : Sheet} {r : Rule} {i : Nat} (hv : Valid s) (hk : r.kind ≠ .charset)
    (h0 : i = 0 → headIs s .charset = false)
    (hl : ∀ m, lv r = some m → lvLe m (s.take i) ∧ lvGe m (s.drop i)) : Valid (insertAt s i r) := by
  rw [insertAt_eq]
  have hs : s.take i ++ s.drop i = s := List.take_append_drop i s
  apply valid_insert (by rw [hs]; exact hv) hk ?_ hl
  intro ha
  cases i with
  | zero =>
    simp only [List.drop_zero]
    exact headIs_false_iff.mp (h0 rfl)
  | succ j =>
    -- take (j+1) s = [] means s = []
    have : s = [] := by
      cases s with
      | nil => rfl
      | cons x xs => simp at ha
    subst this
    simp

theorem prefix_nil_of_valid_charset {x : Rule} {a b : Sheet} (hv : Valid (a ++ x :: b)) (hx : x.kind = .charset) :
    a = [] := by
  cases a with
  | nil => rfl
  | cons y ys =>
    exfalso
    exact hv.1 x (by simp) hx

theorem valid_insert_after {a b : Sheet} {x r : Rule} (hv : Valid (a ++ x :: b)) (hk : r.kind ≠ .charset)
    (hl : lv x = lv r) : Valid ((a ++ [x]) ++ r :: b) := by
  apply valid_insert (by simpa using hv) hk (fun h => by simp at h)
  intro m hm
  have hp := pivot hv (hl.trans hm)
  refine ⟨lvLe_append hp.1 fun y hy n hn => ?_, hp.2⟩
  obtain rfl := List.mem_singleton.1 hy
  rw [hl, hm] at hn
  exact Nat.le_of_eq (Option.some.inj hn).symm

theorem valid_cons_charset {s : Sheet} {r : Rule} (hv : Valid s) (hh : headIs s .charset = false)
    (hk : r.kind = .charset) : Valid (r :: s) := by
  refine ⟨fun x hx => ?_, by simpa [List.filterMap_cons, lv, hk, lvl] using hv.2⟩
  cases s with
  | nil => cases hx
  | cons h t =>
    rcases List.mem_cons.mp hx with rfl | hx'
    · exact headIs_false_iff.mp hh x (by simp)
    · exact hv.1 x hx'

/-! ### the splits the in-order placements use -/

theorem mem_takeWhile_imp {α} {p : α → Bool} {l : List α} {x : α} (h : x ∈ l.takeWhile p) : p x = true :=
  List.all_eq_true.mp List.all_takeWhile x h

theorem splitLast_spec (p : Rule → Bool) (s : Sheet) :
    (splitLast p s).1 ++ (splitLast p s).2 = s ∧ (∀ x ∈ (splitLast p s).2, p x = false) ∧
    ((splitLast p s).1 = [] ∨ ∃ a x, (splitLast p s).1 = a ++ [x] ∧ p x = true) := by
  simp only [splitLast]
  refine ⟨?_, ?_, ?_⟩
  · rw [← List.reverse_append, List.takeWhile_append_dropWhile, List.reverse_reverse]
  · intro x hx
    have := mem_takeWhile_imp (List.mem_reverse.mp hx)
    simpa using this
  · cases hd : s.reverse.dropWhile (fun x => !p x) with
    | nil => left; rfl
    | cons y ys =>
      right
      refine ⟨ys.reverse, y, by simp, ?_⟩
      have := List.head_dropWhile_not (fun x => !p x) (l := s.reverse) (by rw [hd]; simp)
      simp only [hd, List.head_cons] at this
      simpa using this

theorem splitFirst_spec (q : Rule → Bool) (s : Sheet) :
    (splitFirst q s).1 ++ (splitFirst q s).2 = s ∧ (∀ x ∈ (splitFirst q s).1, q x = false) ∧
    ((splitFirst q s).2 = [] ∨ ∃ y b, (splitFirst q s).2 = y :: b ∧ q y = true) := by
  simp only [splitFirst]
  refine ⟨List.takeWhile_append_dropWhile, ?_, ?_⟩
  · intro x hx
    have := mem_takeWhile_imp hx
    simpa using this
  · cases hd : s.dropWhile (fun x => !q x) with
    | nil => left; rfl
    | cons y ys =>
      right
      refine ⟨y, ys, rfl, ?_⟩
      have := List.head_dropWhile_not (fun x => !q x) (l := s) (by rw [hd]; simp)
      simp only [hd, List.head_cons] at this
      simpa using this

/-! ### `deleteRule` -/

/-- number of @namespace rules with URI `u` (the count `deleteRule` looks at) -/
def nsCount (s : Sheet) (u : Nat) : Nat := ((s.filter (isKind .namespace)).map (·.u)).count u

/-- the protection test of `deleteRule` -/
def Protected (s : Sheet) (r : Rule) : Prop := r.kind = .namespace ∧ r.u ∈ usedURIs s ∧ nsCount s r.u = 1

instance (s : Sheet) (r : Rule) : Decidable (Protected s r) := by unfold Protected; infer_instance

theorem nsCount_append (A B : Sheet) (u : Nat) : nsCount (A ++ B) u = nsCount A u + nsCount B u := by
  simp [nsCount, List.filter_append, List.count_append]

theorem nsCount_cons_ns (r : Rule) (B : Sheet) (hk : r.kind = .namespace) :
    nsCount (r :: B) r.u = nsCount B r.u + 1 := by
  simp [nsCount, isKind, hk]

theorem nsCount_of_mem {s : Sheet} {x : Rule} (hx : x ∈ s) (hk : x.kind = .namespace) : 0 < nsCount s x.u := by
  unfold nsCount
  rw [List.count_pos_iff]
  exact List.mem_map.2 ⟨x, by simp [List.mem_filter, isKind, hx, hk], rfl⟩

theorem not_protected_of_twin {s : Sheet} {i : Nat} {r x : Rule} (hi : s[i]? = some r) (hx : x ∈ s)
    (hxk : x.kind = .namespace) (hxu : x.u = r.u) (hne : x ≠ r) : ¬ Protected s r := by
  rintro ⟨hk, _, hcnt⟩
  obtain ⟨A, B, rfl, _, _⟩ := split_at s i r hi
  rw [nsCount_append, nsCount_cons_ns r B hk] at hcnt
  rcases List.mem_append.1 hx with hxa | hxb
  · have := nsCount_of_mem hxa hxk; rw [hxu] at this; omega
  · rcases List.mem_cons.1 hxb with rfl | hxb
    · exact hne rfl
    · have := nsCount_of_mem hxb hxk; rw [hxu] at this; omega

theorem deleteRule_at (s : Sheet) (i : Int) (idx : Nat) (r : Rule) (hp : pyIndex s.length i = some idx)
    (hi : s[idx]? = some r) :
    deleteRule s i = if Protected s r then (s, .raised .noModification) else (s.eraseIdx idx, .none) := by
  have hb : (decide (r.kind = .namespace) && (usedURIs s).contains r.u &&
      decide (((s.filter (isKind .namespace)).map (·.u)).count r.u = 1)) = true ↔ Protected s r := by
    simp [Protected, nsCount, and_assoc]
  simp only [deleteRule, hp, hi]
  by_cases h : Protected s r
  · rw [if_pos (hb.2 h), if_pos h]
  · rw [if_neg (mt hb.1 h), if_neg h]

theorem deleteRule_nat (s : Sheet) (idx : Nat) (r : Rule) (hi : s[idx]? = some r) :
    deleteRule s (idx : Int) =
      if Protected s r then (s, .raised .noModification) else (s.eraseIdx idx, .none) := by
  have hlt : idx < s.length := (List.getElem?_eq_some_iff.1 hi).1
  exact deleteRule_at s idx idx r (by simp [pyIndex, hlt]) hi

theorem deleteRule_shape (s : Sheet) (i : Int) :
    (∃ e, deleteRule s i = (s, .raised e)) ∨
    ∃ idx r, s[idx]? = some r ∧ ¬ Protected s r ∧ deleteRule s i = (s.eraseIdx idx, .none) := by
  cases hp : pyIndex s.length i with
  | none => exact .inl ⟨.indexSize, by simp only [deleteRule, hp]⟩
  | some idx =>
    cases hi : s[idx]? with
    | none => exact .inl ⟨.indexSize, by simp only [deleteRule, hp, hi]⟩
    | some r =>
      rw [deleteRule_at s i idx r hp hi]
      by_cases hpr : Protected s r
      · exact .inl ⟨_, if_pos hpr⟩
      · exact .inr ⟨idx, r, hi, hpr, if_neg hpr⟩

theorem deleteRule_sublist (s : Sheet) (i : Int) : (deleteRule s i).1.Sublist s := by
  rcases deleteRule_shape s i with ⟨e, h⟩ | ⟨idx, r, _, _, h⟩ <;> rw [h]
  · exact List.Sublist.refl _
  · exact List.eraseIdx_sublist _ _

theorem deleteRule_reject (s : Sheet) (i : Int) (e : Err) (h : (deleteRule s i).2 = .raised e) :
    (deleteRule s i).1 = s := by
  rcases deleteRule_shape s i with ⟨e, h'⟩ | ⟨idx, r, _, _, h'⟩ <;> rw [h'] at h ⊢
  cases h

/-! ### the clean-up loop -/

theorem cleanLoop_end (items : List (Nat × Nat)) (fuel : Nat) (s : Sheet) (i : Nat) (hi : s[i]? = none) :
    cleanLoop items (fuel + 1) s i = (s, none) := by
  simp only [cleanLoop, hi]

theorem cleanLoop_step (items : List (Nat × Nat)) (fuel : Nat) (s : Sheet) (i : Nat) (r : Rule)
    (hi : s[i]? = some r) :
    cleanLoop items (fuel + 1) s i =
      if r.kind = .namespace ∧ (r.p, r.u) ∉ items then
        if Protected s r then (s, some .noModification) else cleanLoop items fuel (s.eraseIdx i) i
      else cleanLoop items fuel s (i + 1) := by
  simp only [cleanLoop, hi]
  have hcond : (decide (r.kind = .namespace) && !(items.contains (r.p, r.u))) = true ↔
      (r.kind = .namespace ∧ (r.p, r.u) ∉ items) := by simp
  by_cases hc : r.kind = .namespace ∧ (r.p, r.u) ∉ items
  · rw [if_pos (hcond.2 hc), if_pos hc, deleteRule_nat s i r hi]
    by_cases hp : Protected s r <;> simp [hp]
  · rw [if_neg (mt hcond.1 hc), if_neg hc]

/-- the rule at `i` is an @namespace rule whose (prefix, URI) is not among `items`: the loop tries to drop it -/
def Droppable (items : List (Nat × Nat)) (s : Sheet) (i : Nat) (r : Rule) : Prop :=
  s[i]? = some r ∧ r.kind = .namespace ∧ (r.p, r.u) ∉ items

theorem cleanLoop_ind (items : List (Nat × Nat)) (P : Sheet → Prop)
    (hstep : ∀ (s : Sheet) (i : Nat) (r : Rule), P s → Droppable items s i r → ¬ Protected s r → P (s.eraseIdx i)) :
    ∀ (fuel : Nat) (s : Sheet) (i : Nat), P s → P (cleanLoop items fuel s i).1 := by
  intro fuel
  induction fuel with
  | zero => exact fun s i h => h
  | succ fuel ih =>
    intro s i h
    cases hi : s[i]? with
    | none => rw [cleanLoop_end items fuel s i hi]; exact h
    | some r =>
      rw [cleanLoop_step items fuel s i r hi]
      split
      · rename_i hc
        split
        · exact h
        · rename_i hp
          exact ih _ i (hstep s i r h ⟨hi, hc⟩ hp)
      · exact ih s (i + 1) h

theorem cleanLoop_noraise (items : List (Nat × Nat)) (P : Sheet → Prop)
    (hstep : ∀ (s : Sheet) (i : Nat) (r : Rule), P s → Droppable items s i r → ¬ Protected s r → P (s.eraseIdx i))
    (hsafe : ∀ (s : Sheet) (i : Nat) (r : Rule), P s → Droppable items s i r → ¬ Protected s r) :
    ∀ (fuel : Nat) (s : Sheet) (i : Nat), P s → (cleanLoop items fuel s i).2 = none := by
  intro fuel
  induction fuel with
  | zero => exact fun s i _ => rfl
  | succ fuel ih =>
    intro s i h
    cases hi : s[i]? with
    | none => rw [cleanLoop_end items fuel s i hi]
    | some r =>
      rw [cleanLoop_step items fuel s i r hi]
      split
      · rename_i hc
        have hp := hsafe s i r h ⟨hi, hc⟩
        rw [if_neg hp]
        exact ih _ i (hstep s i r h ⟨hi, hc⟩ hp)
      · exact ih s (i + 1) h

theorem cleanNamespaces_sublist (s : Sheet) : (cleanNamespaces s).1.Sublist s :=
  cleanLoop_ind _ (·.Sublist s) (fun t i _ h _ _ => (List.eraseIdx_sublist t i).trans h) _ s 0
    (List.Sublist.refl s)

theorem cleanLoop_done (items : List (Nat × Nat)) :
    ∀ (fuel : Nat) (s : Sheet) (i : Nat), s.length - i < fuel →
      (∀ x ∈ s.take i, x.kind = .namespace → (x.p, x.u) ∈ items) →
      (cleanLoop items fuel s i).2 = none →
      ∀ x ∈ (cleanLoop items fuel s i).1, x.kind = .namespace → (x.p, x.u) ∈ items := by
  intro fuel
  induction fuel with
  | zero => intro s i hf; omega
  | succ fuel ih =>
    intro s i hf hpre
    cases hi : s[i]? with
    | none =>
      rw [cleanLoop_end items fuel s i hi]
      intro _ x hx
      rw [List.take_of_length_le (by simpa using hi)] at hpre
      exact hpre x hx
    | some r =>
      have hlt : i < s.length := (List.getElem?_eq_some_iff.1 hi).1
      rw [cleanLoop_step items fuel s i r hi]
      split
      · split
        · intro h; cases h
        · apply ih
          · rw [List.length_eraseIdx_of_lt hlt]; omega
          · rw [List.eraseIdx_eq_take_drop_succ,
              List.take_append_of_le_length (by rw [List.length_take]; omega), List.take_take, Nat.min_self]
            exact hpre
      · rename_i hc
        apply ih _ _ (by omega)
        intro x hx
        rw [List.take_add_one, hi] at hx
        rcases List.mem_append.1 hx with hx | hx
        · exact hpre x hx
        · obtain rfl : x = r := by simpa using hx
          exact fun hk => Classical.byContradiction fun hm => hc ⟨hk, hm⟩

theorem cleanNamespaces_done {s s' : Sheet} (h : cleanNamespaces s = (s', none)) :
    ∀ x ∈ s', x.kind = .namespace → (x.p, x.u) ∈ view s := by
  have := cleanLoop_done (view s) (s.length + 1) s 0 (by omega) (by intro x hx; simp at hx)
  unfold cleanNamespaces at h
  rw [h] at this
  exact this rfl

/-! ### in-order placement (repaired code) -/

theorem inOrderPlace_spec (s : Sheet) (own : Kind) (before cands : List Kind) :
    ∃ A B, A ++ B = s ∧ inOrderPlace true s own before cands s.length = A.length ∧
      ((∃ a x, A = a ++ [x] ∧ x.kind = own) ∨
       ((∀ y ∈ s, y.kind ≠ own) ∧
        ∃ pre2 a, A = pre2 ++ a ∧ (pre2 = [] ∨ ∃ a2 x, pre2 = a2 ++ [x] ∧ x.kind ∈ before) ∧
          (∀ y ∈ a, y.kind ∉ cands ∧ y.kind ∉ before) ∧ (∀ y ∈ B, y.kind ∉ before))) := by
  obtain ⟨h1a, h1b, h1c⟩ := splitLast_spec (isKind own) s
  unfold inOrderPlace
  rcases h1c with hnil | ⟨a, x, hpre, hx⟩
  · -- no rule of its own kind: behind the last `before`-rule, in front of the first candidate after it
    rw [hnil, List.nil_append] at h1a
    have hown : ∀ y ∈ s, y.kind ≠ own := fun y hy => isKind_false (h1b y (by rw [h1a]; exact hy))
    simp only [hnil, List.isEmpty_nil, Bool.not_true, Bool.false_eq_true, if_false, if_true]
    obtain ⟨h2a, h2b, h2c⟩ := splitLast_spec (kindIn before) s
    generalize splitLast (kindIn before) s = sl at h2a h2b h2c ⊢
    obtain ⟨pre2, rest⟩ := sl
    obtain ⟨h3a, h3b, h3c⟩ := splitFirst_spec (kindIn cands) rest
    generalize splitFirst (kindIn cands) rest = sf at h3a h3b h3c ⊢
    obtain ⟨a, B⟩ := sf
    simp only at h2a h2b h2c h3a h3b h3c ⊢
    subst h3a
    refine ⟨pre2 ++ a, B, by rw [List.append_assoc, h2a], ?_, .inr ⟨hown, pre2, a, rfl, ?_, ?_, ?_⟩⟩
    · rcases h3c with rfl | ⟨y, b, rfl, _⟩
      · simp [← h2a]
      · simp
    · exact h2c.imp id fun ⟨a2, x, h, hx⟩ => ⟨a2, x, h, kindIn_true hx⟩
    · exact fun y hy => ⟨kindIn_false (h3b y hy), kindIn_false (h2b y (List.mem_append_left _ hy))⟩
    · exact fun y hy => kindIn_false (h2b y (List.mem_append_right _ hy))
  · refine ⟨(splitLast (isKind own) s).1, (splitLast (isKind own) s).2, h1a, ?_,
      Or.inl ⟨a, x, hpre, isKind_true hx⟩⟩
    simp [hpre]

def optLe : Option Nat → Option Nat → Bool
  | some n, some k => n ≤ k
  | _, _ => true

theorem optLe_some {a b : Option Nat} (h : optLe a b = true) {n k : Nat} (ha : a = some n) (hb : b = some k) :
    n ≤ k := by
  subst ha hb
  simpa [optLe] using h

/-- the table condition under which `inOrderPlace` is a valid place for a rule of kind `own`: the `before`
kinds (which include @charset, and otherwise have a level) are those of a level up to that of `own`, all
other kinds are at least on that level, and every kind outside `cands` is at most on it -/
def orderOK (own : Kind) (before cands : List Kind) : Bool :=
  own != .charset && before.contains .charset &&
  kinds.all fun k =>
    (if before.contains k then (k == .charset || (lvl k).isSome) && optLe (lvl k) (lvl own)
     else optLe (lvl own) (lvl k)) &&
    (cands.contains k || optLe (lvl k) (lvl own))

theorem valid_inOrder (s : Sheet) (hv : Valid s) (r : Rule) (own : Kind) (before cands : List Kind)
    (hr : r.kind = own) (hok : orderOK own before cands = true) :
    Valid (insertAt s (inOrderPlace true s own before cands s.length) r) := by
  simp only [orderOK, Bool.and_eq_true, bne_iff_ne, ne_eq, List.contains_eq_mem, decide_eq_true_eq,
    List.all_eq_true] at hok
  obtain ⟨⟨hnc, hcb⟩, htab⟩ := hok
  have hin : ∀ x : Rule, x.kind ∈ before →
      (x.kind = .charset ∨ (lv x).isSome = true) ∧ optLe (lv x) (lv r) = true := by
    intro x hx
    have := (htab x.kind (mem_kinds _)).1
    rw [if_pos (by simpa using hx)] at this
    simpa [lv, hr] using this
  have hout : ∀ x : Rule, x.kind ∉ before → optLe (lv r) (lv x) = true := by
    intro x hx
    have := (htab x.kind (mem_kinds _)).1
    rw [if_neg (by simpa using hx)] at this
    simpa [lv, hr] using this
  have hcand : ∀ x : Rule, x.kind ∉ cands → optLe (lv x) (lv r) = true := by
    intro x hx
    have := (htab x.kind (mem_kinds _)).2
    simpa [lv, hr, hx] using this
  obtain ⟨A, B, hAB, hidx, hcase⟩ := inOrderPlace_spec s own before cands
  rw [hidx, ← hAB, insertAt_append]
  have hv' : Valid (A ++ B) := by rw [hAB]; exact hv
  rcases hcase with ⟨a, x, hA, hx⟩ | ⟨hown, pre2, a, hA, hpre2, ha, hB⟩
  · subst hA
    exact valid_insert_after (by simpa using hv') (hr ▸ hnc) ((lv_of_kind hx).trans (lv_of_kind hr).symm)
  · subst hA
    apply valid_insert hv' (hr ▸ hnc)
    · intro hnil y hy hk
      exact hB y (List.mem_of_mem_head? hy) (hk ▸ hcb)
    · intro k hk
      refine ⟨?_, fun y hy n hn => optLe_some (hout y (hB y hy)) hk hn⟩
      intro y hy n hn
      rcases List.mem_append.mp hy with h | h
      · rcases hpre2 with rfl | ⟨a2, x, rfl, hxb⟩
        · cases h
        · rcases List.mem_append.mp h with h' | h'
          · -- in front of the last `before`-rule x: bounded by x's level, or x is the @charset at index 0
            have hvv : Valid (a2 ++ x :: (a ++ B)) := by simpa [List.append_assoc] using hv'
            rcases (hin x hxb).1 with hxc | hxl
            · obtain rfl := prefix_nil_of_valid_charset hvv hxc
              cases h'
            · obtain ⟨j, hxl⟩ := Option.isSome_iff_exists.1 hxl
              have h1 := (pivot hvv hxl).1 y h' n hn
              have h2 := optLe_some (hin x hxb).2 hxl hk
              omega
          · obtain rfl := List.mem_singleton.1 h'
            exact optLe_some (hin y hxb).2 hn hk
      · exact optLe_some (hcand y (ha y h).1) hn hk

/-- `add()` (in-order) takes no index.  The validity proof needed this hypothesis for the code before repair df1e9ff
(`insertRule(rule, index, inOrder=True)` used the given index when no later rule was found); it is no longer used -/
def OpWF : Op → Prop
  | .insert _ idx o => o = true → idx = none
  | _ => True

/-! ### `insertRule` in three steps

`insertRule(rule, index)` refuses or picks the given index (`refuses`), `add(rule)` computes a position
(`addPlace`; only the in-order @charset over an existing @charset rule re-labels instead), and both end in
`commit`. -/

/-- where `insertRule(rule, i)` does not put the rule (hierarchy error) -/
def refuses (s : Sheet) (r : Rule) (i : Nat) : Bool :=
  match r.kind with
  | .charset => i ≠ 0 || headIs s .charset
  | .import => (i = 0 && headIs s .charset) || (s.take i).any (kindIn (.namespace :: bodyKinds))
  | .namespace => (s.drop i).any (kindIn [.charset, .import]) || (s.take i).any (kindIn bodyKinds)
  | .variables => (s.drop i).any (kindIn [.charset, .import, .namespace]) ||
      (s.take i).any (kindIn lvl3Kinds)
  | .unknown | .comment => i = 0 && headIs s .charset
  | _ => (s.drop i).any (kindIn [.charset, .import, .namespace])

/-- where `add(rule)` puts the rule (`i`, the index given, only matters to the placement before the repair) -/
def addPlace (fx : Bool) (s : Sheet) (r : Rule) (i : Nat) : Nat :=
  match r.kind with
  | .charset => 0
  | .import =>
    if !(splitLast (isKind .import) s).1.isEmpty then (splitLast (isKind .import) s).1.length
    else if headIs s .charset || headIs s .comment then 1 else 0
  | .namespace => inOrderPlace fx s .namespace [.charset, .import] (bodyKinds ++ [.unknown, .comment])
      (if fx then s.length else i)
  | .variables => inOrderPlace fx s .variables [.charset, .import, .namespace]
      [.media, .page, .style, .fontface, .unknown, .comment] (if fx then s.length else i)
  | _ => s.length

/-- the last step: the rule goes to position `idx`; an @namespace rule whose declaration is in force already
is not inserted, any other one is followed by the clean-up (and the call undone if that raises) -/
def commit (s : Sheet) (r : Rule) (clean : Bool) (idx : Nat) : Sheet × Res :=
  if r.kind = .namespace then
    if dictGet (view s) r.p = some r.u then (s, .ok idx)
    else if clean then
      match cleanNamespaces (insertAt s idx r) with
      | (_, some e) => (s, .raised e)
      | (s'', none) => (s'', .ok idx)
    else (insertAt s idx r, .ok idx)
  else (insertAt s idx r, .ok idx)

theorem ite_or {α} (a b : Prop) [Decidable a] [Decidable b] (x y : α) :
    (if a ∨ b then x else y) = if a then x else if b then x else y := by
  by_cases a <;> simp [*]

/-- the `place` of the @namespace and @variables branches: two tests, then the index -/
theorem match_place {α} (a b : Prop) [Decidable a] [Decidable b] (i : Nat) (x : α) (f : Nat → α) :
    (match (if a then none else if b then none else some i : Option Nat) with
      | none => x
      | some idx => f idx) = if a then x else if b then x else f i := by
  by_cases a <;> by_cases b <;> simp [*]

section insertRule
variable (fx : Bool) (s : Sheet) (r : Rule) (i : Nat)

theorem insertRule_index (index : Option Nat) (inOrder clean : Bool) :
    insertRule fx s r index inOrder clean = insertRule fx s r (some (index.getD s.length)) inOrder clean := by
  cases index <;> rfl

theorem insertRule_indexSize (inOrder clean : Bool) (h : s.length < i) :
    insertRule fx s r (some i) inOrder clean = (s, .raised .indexSize) := by
  unfold insertRule
  exact if_pos h

theorem insertRule_at (clean : Bool) (hi : i ≤ s.length) :
    insertRule fx s r (some i) false clean =
      if refuses s r i then (s, .raised .hierarchy) else commit s r clean i := by
  unfold insertRule refuses commit lvl3Kinds
  simp only [Option.getD_some, gt_iff_lt, Nat.not_lt.2 hi, if_false, Bool.false_eq_true, Bool.not_false, Bool.and_true]
  cases r.kind <;>
    simp only [Bool.or_eq_true, reduceCtorEq, Bool.or_false, decide_true, decide_false, Bool.false_or, if_true,
      if_false, ite_or]
  all_goals exact match_place _ _ i _ _

theorem insertRule_add (clean : Bool) (hi : i ≤ s.length) :
    insertRule fx s r (some i) true clean =
      if r.kind = .charset ∧ headIs s .charset = true then
        (match (generalizing := false) s with
          | h :: t => ({ h with p := r.p } :: t, .ok 0)
          | [] => (s, .ok 0))
      else commit s r clean (addPlace fx s r i) := by
  unfold insertRule addPlace commit
  simp only [Option.getD_some, gt_iff_lt, Nat.not_lt.2 hi, if_false, if_true, Bool.not_true, Bool.and_false,
    Bool.false_eq_true]
  cases r.kind <;> simp only [if_false, if_true, reduceCtorEq, true_and, false_and, insertAt_zero, insertAt_length]
  all_goals rfl

def Placed (inOrder : Bool) (j : Nat) : Prop :=
  match inOrder with
  | true => j = addPlace fx s r i ∧ ¬ (r.kind = .charset ∧ headIs s .charset = true)
  | false => j = i ∧ refuses s r i = false

/-- what a call of `insertRule` comes to: refused; nothing to do (the @namespace declaration is in force); the leading
@charset rule re-labelled; the rule put at its place; an @namespace rule put at its place and the sheet
cleaned -/
inductive Outcome (inOrder clean : Bool) : Sheet × Res → Prop
  | refused (e : Err) : Outcome inOrder clean (s, .raised e)
  | declared (j : Nat) : r.kind = .namespace → dictGet (view s) r.p = some r.u → Outcome inOrder clean (s, .ok j)
  | relabel (h : Rule) (t : Sheet) : s = h :: t → h.kind = .charset →
      Outcome inOrder clean ({ h with p := r.p } :: t, .ok 0)
  | put (j : Nat) : Placed fx s r i inOrder j → (r.kind = .namespace → clean = false) →
      Outcome inOrder clean (insertAt s j r, .ok j)
  | cleaned (j : Nat) (s' : Sheet) : Placed fx s r i inOrder j → r.kind = .namespace → clean = true →
      dictGet (view s) r.p ≠ some r.u → cleanNamespaces (insertAt s j r) = (s', none) →
      Outcome inOrder clean (s', .ok j)

theorem commit_outcome (inOrder clean : Bool) (j : Nat) (hj : Placed fx s r i inOrder j) :
    Outcome fx s r i inOrder clean (commit s r clean j) := by
  unfold commit
  split
  · rename_i hk
    split
    · rename_i hg
      exact .declared j hk hg
    · rename_i hg
      split
      · rename_i hc
        generalize hcn : cleanNamespaces (insertAt s j r) = c
        obtain ⟨s', _ | e⟩ := c
        · exact .cleaned j s' hj hk hc hg hcn
        · exact .refused e
      · rename_i hc
        exact .put j hj fun _ => Bool.not_eq_true _ ▸ hc
  · rename_i hk
    exact .put j hj fun h => absurd h hk

theorem insertRule_outcome (index : Option Nat) (inOrder clean : Bool) :
    Outcome fx s r (index.getD s.length) inOrder clean (insertRule fx s r index inOrder clean) := by
  rw [insertRule_index]
  generalize index.getD s.length = i
  rcases Nat.lt_or_ge s.length i with hi | hi
  · rw [insertRule_indexSize fx s r i inOrder clean hi]; exact .refused _
  · cases inOrder
    · rw [insertRule_at fx s r i clean hi]
      split
      · exact .refused _
      · rename_i h
        exact commit_outcome fx s r i false clean i ⟨rfl, by simpa using h⟩
    · rw [insertRule_add fx s r i clean hi]
      split
      · rename_i h
        cases s with
        | nil => simp [headIs] at h
        | cons x t => exact .relabel x t rfl (by simpa [headIs] using h.2)
      · rename_i h
        exact commit_outcome fx s r i true clean _ ⟨rfl, h⟩

end insertRule

theorem head_of_drop {s : Sheet} {i : Nat} {ks : List Kind} (h : (s.drop i).any (kindIn ks) = false)
    (hc : Kind.charset ∈ ks) : i = 0 → headIs s .charset = false := by
  rintro rfl
  cases s with
  | nil => rfl
  | cons x t =>
    have hx : x.kind ≠ .charset := fun hx => any_kindIn_false.1 h x (by simp) (hx ▸ hc)
    simpa [headIs] using hx

theorem valid_at {s : Sheet} (hv : Valid s) (r : Rule) (i : Nat) (hr : refuses s r i = false) :
    Valid (insertAt s i r) := by
  unfold refuses at hr
  cases hk : r.kind with
  | charset =>
    simp only [hk, Bool.or_eq_false_iff, decide_eq_false_iff_not, Decidable.not_not] at hr
    rw [hr.1, insertAt_zero]
    exact valid_cons_charset hv hr.2 hk
  | «import» =>
    simp only [hk, Bool.or_eq_false_iff] at hr
    apply valid_insertAt hv (by rw [hk]; decide) (by simpa using hr.1)
    intro m hm
    obtain rfl : 1 = m := Option.some.inj ((lv_of_kind hk).symm.trans hm)
    exact ⟨fun y hy n hn => lv_outside _ (· ≤ 1) rfl (any_kindIn_false.1 hr.2 y hy) hn, lvGe_one _⟩
  | «namespace» =>
    simp only [hk, Bool.or_eq_false_iff] at hr
    apply valid_insertAt hv (by rw [hk]; decide) (head_of_drop hr.1 (by simp))
    intro m hm
    obtain rfl : 2 = m := Option.some.inj ((lv_of_kind hk).symm.trans hm)
    exact ⟨fun y hy n hn => lv_outside _ (· ≤ 2) rfl (any_kindIn_false.1 hr.2 y hy) hn,
      fun y hy n hn => lv_outside _ (2 ≤ ·) rfl (any_kindIn_false.1 hr.1 y hy) hn⟩
  | variables =>
    simp only [hk, Bool.or_eq_false_iff] at hr
    apply valid_insertAt hv (by rw [hk]; decide) (head_of_drop hr.1 (by simp))
    intro m hm
    cases (lv_of_kind hk).symm.trans hm
  | unknown | comment =>
    simp only [hk] at hr
    apply valid_insertAt hv (by rw [hk]; decide) (by simpa using hr)
    intro m hm
    cases (lv_of_kind hk).symm.trans hm
  | margin | style | media | page | fontface =>
    simp only [hk] at hr
    apply valid_insertAt hv (by rw [hk]; decide) (head_of_drop hr (by simp))
    intro m hm
    have hm3 : m = 3 := by
      simp [lv, hk, lvl] at hm <;> first | exact hm.symm | cases hm
    subst hm3
    exact ⟨lvLe_three _, fun y hy n hn => lv_outside _ (3 ≤ ·) rfl (any_kindIn_false.1 hr y hy) hn⟩

theorem valid_add {s : Sheet} (hv : Valid s) (r : Rule) (i : Nat)
    (hc : ¬ (r.kind = .charset ∧ headIs s .charset = true)) : Valid (insertAt s (addPlace true s r i) r) := by
  unfold addPlace
  cases hk : r.kind with
  | charset =>
    rw [insertAt_zero]
    exact valid_cons_charset hv (by simpa [hk] using hc) hk
  | «import» =>
    have hnc : r.kind ≠ .charset := by rw [hk]; decide
    have hlv : lv r = some 1 := lv_of_kind hk
    obtain ⟨h1a, -, h1c⟩ := splitLast_spec (isKind .import) s
    simp only
    rcases h1c with hnil | ⟨a, x, hpre, hx⟩
    · simp only [hnil, List.isEmpty_nil, Bool.not_true, Bool.false_eq_true, if_false]
      split
      · -- behind the leading @charset / comment, which has no level
        rename_i hh
        apply valid_insertAt hv hnc (by simp)
        intro m hm
        rw [hlv] at hm; cases hm
        refine ⟨fun y hy n hn => ?_, lvGe_one _⟩
        cases s with
        | nil => cases hy
        | cons h t =>
          obtain rfl : y = h := by simpa using hy
          have hhk : y.kind = .charset ∨ y.kind = .comment := by simpa [headIs] using hh
          rcases hhk with h' | h' <;> cases (lv_of_kind h').symm.trans hn
      · rename_i hh
        simp only [Bool.or_eq_true, not_or, Bool.not_eq_true] at hh
        apply valid_insertAt hv hnc (fun _ => hh.1)
        intro m hm
        rw [hlv] at hm; cases hm
        exact ⟨fun _ h => by simp at h, lvGe_one _⟩
    · have hne : (!(splitLast (isKind .import) s).1.isEmpty) = true := by simp [hpre]
      simp only [hne, if_true]
      rw [hpre] at h1a ⊢
      generalize (splitLast (isKind .import) s).2 = rest at h1a
      subst h1a
      rw [insertAt_append]
      exact valid_insert_after (by simpa using hv) hnc ((lv_of_kind (isKind_true hx)).trans (lv_of_kind hk).symm)
  | «namespace» => exact valid_inOrder s hv r .namespace _ _ hk rfl
  | variables => exact valid_inOrder s hv r .variables _ _ hk rfl
  | unknown | comment | margin | style | media | page | fontface =>
    apply valid_insertAt hv (by rw [hk]; decide) (headIs_of_length_eq_zero _)
    intro m hm
    have : m = 3 := by
      simp [lv, hk, lvl] at hm <;> first | exact hm.symm | cases hm
    subst this
    exact ⟨lvLe_three _, fun _ h => by simp at h⟩

theorem insertRule_valid (s : Sheet) (hv : Valid s) (r : Rule) (index : Option Nat) (inOrder : Bool)
    (clean : Bool) :
    Valid (insertRule true s r index inOrder clean).1 := by
  have placed : ∀ j, Placed true s r (index.getD s.length) inOrder j → Valid (insertAt s j r) := by
    intro j hj
    cases inOrder with
    | true => rw [hj.1]; exact valid_add hv r _ hj.2
    | false => rw [hj.1]; exact valid_at hv r _ hj.2
  have h := insertRule_outcome true s r index inOrder clean
  generalize insertRule true s r index inOrder clean = out at h
  cases h with
  | refused | declared => exact hv
  | relabel h t hs => subst hs; exact valid_of_kinds rfl hv
  | put j hj => exact placed j hj
  | cleaned j s' hj _ _ _ hcn =>
    exact valid_of_sublist (by simpa [hcn] using cleanNamespaces_sublist (insertAt s j r)) (placed j hj)

theorem insertRule_reject (fx : Bool) (s : Sheet) (r : Rule) (index : Option Nat) (inOrder clean : Bool)
    (e : Err) (h : (insertRule fx s r index inOrder clean).2 = .raised e) :
    (insertRule fx s r index inOrder clean).1 = s := by
  have ho := insertRule_outcome fx s r index inOrder clean
  generalize insertRule fx s r index inOrder clean = out at h ho
  cases ho with
  | refused => rfl
  | declared | relabel | put | cleaned => cases h

/-- `hwrap`: `encoding = …` and `namespaces[p] = u` turn the success of their inner `insertRule` into "nothing to
report" -/
theorem step_cases (Q : Sheet × Res → Prop) (fx : Bool) (s : Sheet) (op : Op) (h0 : ∀ res, Q (s, res))
    (hins : ∀ r i o, op = .insert r i o ∨ r.kind = .charset ∨ r.kind = .namespace → Q (insertRule fx s r i o))
    (hwrap : ∀ x, Q x → Q (match x with | (s', .ok _) => (s', Res.none) | x => x))
    (hdel : ∀ i, Q (deleteRule s i))
    (hlab : ∀ h t q, s = h :: t → h.kind = .charset → Q ({ h with p := q } :: t, .none))
    (hasg : ∀ rs, op = .assign rs → Q (parseSheet fx rs, .none)) : Q (step fx s op) := by
  cases op with
  | insert r i o => exact hins r i o (.inl rfl)
  | delete i => exact hdel i
  | encoding e =>
    simp only [step, setEncoding]
    split
    · rename_i hh
      split
      · rename_i enc h t
        exact hlab h t enc rfl (by simpa [headIs] using hh)
      · exact hdel 0
      · exact h0 _
    · split
      · exact hwrap _ (hins _ _ _ (.inr (.inl rfl)))
      · exact h0 _
  | nsSet p u =>
    simp only [step, nsSet]
    split
    · exact hwrap _ (hins _ _ _ (.inr (.inr rfl)))
    · split
      · exact h0 _
      · split <;> exact h0 _
  | nsDel p =>
    simp only [step, nsDel]
    split
    · exact h0 _
    · exact hdel _
  | assign rs =>
    simp only [step, assignSheet]
    split
    · exact hasg rs rfl
    · exact h0 _

theorem step_ind (P : Sheet → Prop) (fx : Bool) (s : Sheet) (op : Op) (h0 : P s)
    (hins : ∀ r i o, op = .insert r i o ∨ r.kind = .charset ∨ r.kind = .namespace →
      P (insertRule fx s r i o).1)
    (hdel : ∀ i, P (deleteRule s i).1)
    (hlab : ∀ h t q, s = h :: t → h.kind = .charset → P ({ h with p := q } :: t))
    (hasg : ∀ rs, op = .assign rs → P (parseSheet fx rs)) : P (step fx s op).1 :=
  step_cases (P ·.1) fx s op (fun _ => h0) hins (fun ⟨_, r⟩ h => by cases r <;> exact h) hdel hlab hasg

theorem step_reject (fx : Bool) (s : Sheet) (op : Op) (e : Err) (h : (step fx s op).2 = .raised e) :
    (step fx s op).1 = s := by
  refine step_cases (fun x => x.2 = .raised e → x.1 = s) fx s op (fun _ _ => rfl)
    (fun r i o _ => insertRule_reject fx s r i o true e) ?_ (fun i => deleteRule_reject s i e)
    (fun _ _ _ _ _ h => by cases h) (fun _ _ h => by cases h) h
  rintro ⟨s', res⟩ hx h
  cases res with
  | ok | none => cases h
  | raised => exact hx h

/-! ### the parse-time ordering machine -/

theorem parseInsert_fst (fx : Bool) (acc : Sheet) (r : Rule) :
    (parseInsert fx acc r).1 = (insertRule fx acc r none false false).1 := by
  unfold parseInsert
  generalize insertRule fx acc r none false false = x
  obtain ⟨s', _ | _ | _⟩ := x <;> rfl

/-- a statement of this kind comes too late when the parser expects level `expected` -/
def tooLate (k : Kind) (expected : Nat) : Bool :=
  match k with
  | .charset => expected > 0
  | .import => expected > 1
  | .namespace | .variables => expected > 2
  | _ => false

/-- the level the parser expects after a statement of this kind -/
def nextLevel (k : Kind) (expected : Nat) : Nat :=
  match k with
  | .charset | .import => 1
  | .namespace | .variables => 2
  | .unknown | .comment | .margin => max 1 expected
  | _ => 3

/-- an @namespace statement for a declared prefix gives the rules with that prefix its URI -/
def redeclare (p u : Nat) (x : Rule) : Rule :=
  if x.kind = .namespace && x.p = p then { x with u := u } else x

theorem redeclare_kind (p u : Nat) (x : Rule) : (redeclare p u x).kind = x.kind := by
  unfold redeclare; split <;> rfl

theorem redeclare_p (p u : Nat) (x : Rule) : (redeclare p u x).p = x.p := by
  unfold redeclare; split <;> rfl

theorem redeclare_of_ne (p u : Nat) {x : Rule} (h : x.kind ≠ .namespace) : redeclare p u x = x := by
  simp [redeclare, h]

theorem parseLoop_cons (fx : Bool) (r : Rule) (rs : List Rule) (expected : Nat) (acc : Sheet) (ok : Bool) :
    parseLoop fx (r :: rs) expected acc ok =
      if tooLate r.kind expected then parseLoop fx rs expected acc false
      else if r.kind = .namespace ∧ acc.any (fun x => x.kind = .namespace && x.p = r.p) = true then
        parseLoop fx rs 2 (acc.map (redeclare r.p r.u)) ok
      else parseLoop fx rs (nextLevel r.kind expected) (parseInsert fx acc r).1
        (ok && (parseInsert fx acc r).2) := by
  rw [parseLoop]
  unfold tooLate nextLevel
  cases r.kind <;> simp only [reduceCtorEq, false_and, true_and, if_false, Bool.false_eq_true, decide_eq_true_eq]
  cases acc.any fun x => decide (x.kind = Kind.namespace) && decide (x.p = r.p) <;> rfl

theorem parseLoop_ind (P : Sheet → Prop) (Q : Rule → Prop) (fx : Bool)
    (hins : ∀ acc r, Q r → (r.kind = .namespace → ∀ x ∈ acc, x.kind = .namespace → x.p ≠ r.p) → P acc →
      P (insertRule fx acc r none false false).1)
    (hupd : ∀ acc p u, P acc → P (acc.map (redeclare p u))) :
    ∀ (rs : List Rule) (expected : Nat) (acc : Sheet) (ok : Bool), (∀ r ∈ rs, Q r) → P acc →
      P (parseLoop fx rs expected acc ok).1 := by
  intro rs
  induction rs with
  | nil => intro _ acc _ _ h; exact h
  | cons r rs ih =>
    intro expected acc ok hq h
    have ih := fun e a o => ih e a o fun x hx => hq x (List.mem_cons_of_mem _ hx)
    rw [parseLoop_cons]
    split
    · exact ih _ _ _ h
    · split
      · exact ih _ _ _ (hupd acc r.p r.u h)
      · rename_i hn
        refine ih _ _ _ ?_
        rw [parseInsert_fst]
        refine hins acc r (hq r List.mem_cons_self) (fun hk x hx hxk hxp => hn ⟨hk, ?_⟩) h
        exact List.any_eq_true.mpr ⟨x, hx, by simp [hxk, hxp]⟩

theorem parseSheet_valid (rs : List Rule) : Valid (parseSheet true rs) := by
  refine valid_of_sublist (cleanNamespaces_sublist _)
    (parseLoop_ind Valid (fun _ => True) true ?_ ?_ rs 0 [] true (fun _ _ => trivial) valid_nil)
  · exact fun acc r _ _ h => insertRule_valid acc h r none false false
  · intro acc p u h
    refine valid_of_kinds ?_ h
    rw [List.map_map]
    exact List.map_congr_left fun x _ => redeclare_kind p u x

theorem step_valid (s : Sheet) (hv : Valid s) (op : Op) : Valid (step true s op).1 :=
  step_ind Valid true s op hv (fun r i o _ => insertRule_valid s hv r i o true)
    (fun i => valid_of_sublist (deleteRule_sublist s i) hv)
    (fun _ _ _ hs _ => valid_of_kinds (by rw [hs]; rfl) hv) (fun rs _ => parseSheet_valid rs)

theorem reachable_ind (P : Sheet → Prop) (Q : Op → Prop) (h0 : P [])
    (hstep : ∀ s op, P s → Q op → P (step true s op).1) (ops : List Op) (hq : ∀ op ∈ ops, Q op) :
    P (ops.foldl (fun s op => (step true s op).1) []) := by
  suffices h : ∀ s, P s → P (ops.foldl (fun s op => (step true s op).1) s) from h [] h0
  induction ops with
  | nil => exact fun s hs => hs
  | cons op ops ih =>
    intro s hs
    exact ih (fun o ho => hq o (List.mem_cons_of_mem _ ho)) _ (hstep s op hs (hq op List.mem_cons_self))

theorem reachable_valid (ops : List Op) :
    Valid (ops.foldl (fun s op => (step true s op).1) []) :=
  reachable_ind Valid (fun _ => True) valid_nil (fun s op hv _ => step_valid s hv op) ops fun _ _ => trivial

end CssVerif.Sheet
