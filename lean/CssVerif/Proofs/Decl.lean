/-
Refinement of the coded `CSSStyleDeclaration` methods to the ordered entry-list specification.
-/
import CssVerif.Model.Decl
namespace CssVerif.Decl

theorem nnamesRev_append (xs ys : List Entry) (acc : List Nat) :
    nnamesRev (xs ++ ys) acc = nnamesRev ys (nnamesRev xs acc) := by
  induction xs generalizing acc with
  | nil => rfl
  | cons x xs ih =>
    simp only [List.cons_append, nnamesRev]
    split <;> exact ih _

theorem mem_nnamesRev (xs : List Entry) (acc : List Nat) (n : Nat) :
    n ∈ nnamesRev xs acc ↔ n ∈ acc ∨ ∃ e ∈ xs, e.name = n := by
  induction xs generalizing acc with
  | nil => simp [nnamesRev]
  | cons x xs ih =>
    simp only [nnamesRev]
    split
    · rename_i hc
      have hc' : x.name ∈ acc := by simpa using hc
      simp only [ih, List.mem_cons, exists_eq_or_imp]
      constructor
      · rintro (h | h)
        · exact .inl h
        · exact .inr (.inr h)
      · rintro (h | rfl | h)
        · exact .inl h
        · exact .inl hc'
        · exact .inr h
    · simp [ih, or_assoc, eq_comm (a := n)]

/-- `key in style` ⇔ some entry has that name -/
theorem mem_nnames (l : Block) (n : Nat) : n ∈ nnames l ↔ ∃ e ∈ l, e.name = n := by
  simp only [nnames, List.mem_reverse, mem_nnamesRev, List.not_mem_nil, false_or]

theorem nnames_cons (e : Entry) (es : Block) :
    nnames (e :: es) = if es.any (fun x => x.name = e.name) then nnames es else e.name :: nnames es := by
  have hmem : (nnamesRev es.reverse []).contains e.name = es.any (fun x => x.name = e.name) := by
    rw [Bool.eq_iff_iff]
    simp only [List.contains_iff_mem, List.any_eq_true, decide_eq_true_eq]
    have := mem_nnames es e.name
    simp only [nnames, List.mem_reverse] at this
    exact this
  simp only [nnames, List.reverse_cons, nnamesRev_append, nnamesRev]
  rw [hmem]
  split
  · rfl
  · simp

/-- keys / length / item / iteration order: distinct names ordered by last occurrence -/
theorem names_spec (l : Block) : nnames l = namesSpec l := by
  induction l with
  | nil => rfl
  | cons e es ih => rw [nnames_cons, namesSpec, ih]

theorem namesSpec_nodup (l : Block) : (namesSpec l).Nodup := by
  induction l with
  | nil => simp [namesSpec]
  | cons e es ih =>
    simp only [namesSpec]
    split
    · exact ih
    · rename_i h
      refine List.nodup_cons.mpr ⟨?_, ih⟩
      rw [← names_spec, mem_nnames]
      intro ⟨x, hx, hn⟩
      apply h
      exact List.any_eq_true.mpr ⟨x, hx, by simpa using hn⟩

theorem scanE_spec (r : List Entry) (n : Nat) (found : Option Entry) :
    scanE r n found =
      (r.find? (fun e => e.name = n && e.imp)).or (found.or (r.find? (fun e => e.name = n))) := by
  induction r generalizing found with
  | nil => cases found <;> rfl
  | cons e es ih =>
    simp only [scanE, List.find?_cons]
    by_cases hn : e.name = n
    · by_cases hi : e.imp = true
      · simp [hn, hi]
      · simp only [hn, hi, Bool.false_eq_true, if_false, if_true, decide_true, Bool.and_false]
        rw [ih]
        cases found <;> simp
    · simp only [hn, if_false, decide_false, Bool.false_and]
      exact ih found

theorem getLast?_filter_eq_find?_reverse (p : Entry → Bool) (l : List Entry) :
    (l.filter p).getLast? = l.reverse.find? p := List.getLast?_filter

/-- **effective lookup**: `getProperty` returns the last important entry of that name, else the last -/
theorem get_effective (l : Block) (n : Nat) : getProperty l n = effective l n := by
  rw [getProperty, scanE_spec, effective, getLast?_filter_eq_find?_reverse, getLast?_filter_eq_find?_reverse]
  rfl

theorem effective_mem (l : Block) (n : Nat) (e : Entry) (h : effective l n = some e) :
    e ∈ l ∧ e.name = n := by
  simp only [effective, Option.or_eq_some_iff] at h
  rcases h with h | ⟨_, h⟩
  · have := List.mem_of_getLast? h
    simp only [List.mem_filter, Bool.and_eq_true, decide_eq_true_eq] at this
    exact ⟨this.1, this.2.1⟩
  · have := List.mem_of_getLast? h
    simp only [List.mem_filter, decide_eq_true_eq] at this
    exact this

theorem effective_isSome_iff (l : Block) (n : Nat) : (effective l n).isSome ↔ ∃ e ∈ l, e.name = n := by
  constructor
  · intro h
    cases he : effective l n with
    | none => rw [he] at h; cases h
    | some e => exact ⟨e, effective_mem l n e he⟩
  · rintro ⟨e, he, hn⟩
    have hm : e ∈ l.filter (fun e => decide (e.name = n)) := by simp [he, hn]
    simp only [effective, Option.isSome_or, Bool.or_eq_true]
    right
    cases hl : (l.filter (fun e => decide (e.name = n))).getLast? with
    | none => rw [List.getLast?_eq_none_iff] at hl; rw [hl] at hm; cases hm
    | some x => rfl

/-- the effective entry is a function of the entries of that name -/
theorem effective_filter (l : Block) (n : Nat) :
    effective l n = (((l.filter (fun e => e.name = n)).filter (·.imp)).getLast?).or
      ((l.filter (fun e => e.name = n)).getLast?) := by
  rw [List.filter_filter, effective]
  simp only [Bool.and_comm]

theorem effective_single {l : Block} {n : Nat} {e : Entry} (h : l.filter (fun x => x.name = n) = [e]) :
    effective l n = some e := by
  rw [effective_filter, h]
  cases hi : e.imp <;> simp [hi]

theorem getProperty_eq_none_iff (l : Block) (n : Nat) : getProperty l n = none ↔ ∀ e ∈ l, e.name ≠ n := by
  rw [← Option.not_isSome_iff_eq_none, get_effective, effective_isSome_iff]
  exact ⟨fun h e he hn => h ⟨e, he, hn⟩, fun h ⟨e, he, hn⟩ => h e he hn⟩

theorem contains_eq_isSome_get (l : Block) (n : Nat) : contains l n = (getProperty l n).isSome := by
  rw [Bool.eq_iff_iff, get_effective, effective_isSome_iff]
  simp only [contains, List.contains_iff_mem, mem_nnames]

theorem get_of_mem_nnames {l : Block} {n : Nat} (hn : n ∈ nnames l) :
    ∃ e, getProperty l n = some e ∧ e ∈ l ∧ e.name = n := by
  have h1 : (getProperty l n).isSome := by
    rw [← contains_eq_isSome_get]; simpa [contains] using hn
  obtain ⟨e, hg⟩ := Option.isSome_iff_exists.mp h1
  exact ⟨e, hg, effective_mem l n e (get_effective l n ▸ hg)⟩

theorem iter_all_some (l : Block) : ∀ x ∈ iter l, ∃ e, x = some e ∧ e ∈ l := by
  intro x hx
  simp only [iter, List.mem_map] at hx
  obtain ⟨n, hn, rfl⟩ := hx
  obtain ⟨e, hg, he, _⟩ := get_of_mem_nnames hn
  exact ⟨e, hg, he⟩

theorem remove_no_name (l : Block) (n : Nat) : ∀ e ∈ removeProperty l n, e.name ≠ n := by
  intro e he
  simp only [removeProperty, List.mem_filter, decide_eq_true_eq] at he
  exact he.2

theorem remove_filter_other (l : Block) {n m : Nat} (hm : m ≠ n) :
    (removeProperty l n).filter (fun e => e.name = m) = l.filter (fun e => e.name = m) := by
  simp only [removeProperty, List.filter_filter]
  apply List.filter_congr
  intro e _
  by_cases h : e.name = m
  · simp [h, hm]
  · simp [h]

theorem remove_sublist (l : Block) (n : Nat) : (removeProperty l n).Sublist l := List.filter_sublist

theorem remove_get_none (l : Block) (n : Nat) : getProperty (removeProperty l n) n = none :=
  (getProperty_eq_none_iff _ n).mpr (remove_no_name l n)

theorem remove_get_other (l : Block) (n m : Nat) (hm : m ≠ n) :
    getProperty (removeProperty l n) m = getProperty l m := by
  rw [get_effective, get_effective, effective_filter, effective_filter, remove_filter_other l hm]

theorem updFirst_length (p : Entry → Bool) (f : Entry → Entry) (r : List Entry) :
    (updFirst p f r).length = r.length := by
  induction r with
  | nil => rfl
  | cons e es ih => simp only [updFirst]; split <;> simp [ih]

theorem updFirst_names (p : Entry → Bool) (f : Entry → Entry) (hf : ∀ e, (f e).name = e.name)
    (r : List Entry) : (updFirst p f r).map (·.name) = r.map (·.name) := by
  induction r with
  | nil => rfl
  | cons e es ih => simp only [updFirst]; split <;> simp [ih, hf]

theorem updFirst_append_cons (p : Entry → Bool) (f : Entry → Entry) (a b : List Entry) (e : Entry)
    (ha : ∀ x ∈ a, p x = false) (he : p e = true) :
    updFirst p f (a ++ e :: b) = a ++ f e :: b := by
  induction a with
  | nil => simp [updFirst, he]
  | cons x xs ih =>
    simp only [List.cons_append, updFirst, ha x List.mem_cons_self, Bool.false_eq_true, if_false]
    rw [ih (fun y hy => ha y (List.mem_cons_of_mem _ hy))]

theorem set_append_when_absent (l : Block) (n lit v : Nat) (imp rep : Bool)
    (h : ∀ e ∈ l, e.name ≠ n) : setProperty l n lit v imp rep = l ++ [⟨n, lit, v, imp⟩] := by
  simp only [setProperty, (getProperty_eq_none_iff l n).mpr h]
  split <;> rfl

theorem set_noreplace (l : Block) (n lit v : Nat) (imp : Bool) :
    setProperty l n lit v imp false = l ++ [⟨n, lit, v, imp⟩] := by
  simp [setProperty]

theorem set_replace_names (l : Block) (n lit v : Nat) (imp : Bool) (hex : ∃ e ∈ l, e.name = n) :
    (setProperty l n lit v imp true).map (·.name) = l.map (·.name) := by
  obtain ⟨e0, hg⟩ := Option.isSome_iff_exists.mp
    ((congrArg Option.isSome (get_effective l n)).trans ((effective_isSome_iff l n).mpr hex))
  simp only [setProperty, if_true, hg]
  split <;>
    rw [List.map_reverse, updFirst_names _ (fun e => { e with val := v, imp := imp }) (fun _ => rfl),
      List.map_reverse, List.reverse_reverse]

theorem filter_name_of_nodup (l : Block) (hnd : (l.map (·.name)).Nodup) (e : Entry) (he : e ∈ l) :
    l.filter (fun x => x.name = e.name) = [e] := by
  induction l with
  | nil => cases he
  | cons x xs ih =>
    simp only [List.map_cons, List.nodup_cons, List.mem_map, not_exists, not_and] at hnd
    simp only [List.filter_cons]
    rcases List.mem_cons.mp he with rfl | he'
    · simp only [decide_true, if_true]
      congr 1
      apply List.filter_eq_nil_iff.mpr
      intro y hy
      simp only [decide_eq_true_eq]
      intro hyn
      exact hnd.1 y hy hyn
    · have hne : x.name ≠ e.name := fun h => hnd.1 e he' h.symm
      simp only [hne, decide_false, Bool.false_eq_true, if_false]
      exact ih hnd.2 he'

/-- `e0` is the only entry of its name, so whichever scan `setProperty` does stops at it -/
theorem set_replace_nodup (a b : Block) (e0 : Entry) (hnd : ((a ++ e0 :: b).map (·.name)).Nodup)
    (lit v : Nat) (imp : Bool) :
    setProperty (a ++ e0 :: b) e0.name lit v imp true = a ++ { e0 with val := v, imp := imp } :: b := by
  have he0 : e0 ∈ a ++ e0 :: b := by simp
  have hnd' : (a.map (·.name) ++ e0.name :: b.map (·.name)).Nodup := by simpa using hnd
  have hB : ∀ x ∈ b.reverse, x.name ≠ e0.name := fun x hx hxn =>
    (List.nodup_cons.mp (List.nodup_append.mp hnd').2.1).1 (hxn ▸ List.mem_map_of_mem (List.mem_reverse.mp hx))
  have key : ∀ p : Entry → Bool, (∀ x, p x = true → x.name = e0.name) → p e0 = true →
      (updFirst p (fun e => { e with val := v, imp := imp }) (a ++ e0 :: b).reverse).reverse
        = a ++ { e0 with val := v, imp := imp } :: b := by
    intro p hp he
    have hrev : (a ++ e0 :: b).reverse = b.reverse ++ e0 :: a.reverse := by simp
    rw [hrev, updFirst_append_cons p _ _ _ _ (fun x hx => Bool.eq_false_iff.mpr fun h => hB x hx (hp x h)) he]
    simp
  obtain ⟨g, hg⟩ := Option.isSome_iff_exists.mp
    ((congrArg Option.isSome (get_effective _ e0.name)).trans ((effective_isSome_iff _ _).mpr ⟨e0, he0, rfl⟩))
  simp only [setProperty, if_true, hg]
  split
  · rename_i hany
    obtain ⟨x, hx, hpx⟩ := List.any_eq_true.mp hany
    simp only [Bool.and_eq_true, decide_eq_true_eq] at hpx
    have hxe : x ∈ (a ++ e0 :: b).filter (fun y => y.name = e0.name) :=
      List.mem_filter.mpr ⟨List.mem_reverse.mp hx, by simpa using hpx.1⟩
    rw [filter_name_of_nodup _ hnd e0 he0, List.mem_singleton] at hxe
    exact key _ (fun y hy => by simp only [Bool.and_eq_true, decide_eq_true_eq] at hy; exact hy.1)
      (by simp [← hxe, hpx.2])
  · exact key _ (fun y hy => by simpa using hy) (by simp)

theorem read_after_set (l : Block) (hnd : (l.map (·.name)).Nodup) (n lit v : Nat) (imp : Bool) :
    ∃ e, getProperty (setProperty l n lit v imp true) n = some e ∧ e.name = n ∧ e.val = v ∧ e.imp = imp := by
  by_cases hex : ∃ e ∈ l, e.name = n
  · obtain ⟨e0, he0, rfl⟩ := hex
    obtain ⟨a, b, rfl⟩ := List.append_of_mem he0
    let e1 : Entry := { e0 with val := v, imp := imp }
    have hnd1 : ((a ++ e1 :: b).map (·.name)).Nodup := by simpa [e1] using hnd
    rw [set_replace_nodup a b e0 hnd, get_effective, effective_single (filter_name_of_nodup _ hnd1 e1 (by simp))]
    exact ⟨e1, rfl, rfl, rfl, rfl⟩
  · have habs : ∀ e ∈ l, e.name ≠ n := fun e he hn => hex ⟨e, he, hn⟩
    have : l.filter (fun e => decide (e.name = n)) = [] :=
      List.filter_eq_nil_iff.mpr fun e he => by simp [habs e he]
    rw [set_append_when_absent l n lit v imp true habs, get_effective,
      effective_single (e := ⟨n, lit, v, imp⟩) (by simp [List.filter_append, this])]
    exact ⟨_, rfl, rfl, rfl, rfl⟩

end CssVerif.Decl
