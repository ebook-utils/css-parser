import CssVerif.Model.Import
namespace CssVerif.Import

/-- below the root segment the loop of `urljoin` is the RFC's, as long as no `..` climbs above the root -/
theorem resolveLoop_rfc (rest st : List String) (h : noClimb st.length rest = true) :
    resolveLoop rest (st ++ [""]) = "" :: rfcLoop rest st := by
  fun_induction rfcLoop rest st with
  | case1 => simp [resolveLoop]
  | case2 rest st ih =>
    -- `..`: the two loops differ only when nothing is left above the root, which `noClimb` excludes
    cases st with
    | nil => simp [noClimb] at h
    | cons x st => simpa [resolveLoop] using ih (by simpa [noClimb] using h)
  | case3 rest st _ ih => simpa [resolveLoop] using ih (by simpa [noClimb] using h)
  | case4 seg rest st h1 h2 ih => simpa [resolveLoop, h1, h2] using ih (by simpa [noClimb, h1, h2] using h)

theorem choose_override (o : Nat) (h e p : Option Nat) (u : Nat) : chooseEncoding (some o) h e p u = (o, .override) := rfl
theorem choose_http (h : Nat) (e p : Option Nat) (u : Nat) : chooseEncoding none (some h) e p u = (h, .http) := rfl
theorem choose_content (e : Nat) (p : Option Nat) (u : Nat) : chooseEncoding none none (some e) p u = (e, .content) := rfl
theorem choose_parent (p u : Nat) : chooseEncoding none none none (some p) u = (p, .parent) := rfl
theorem choose_default (u : Nat) : chooseEncoding none none none none u = (u, .default) := rfl

theorem handOn_none (h e p : Option Nat) (u : Nat) :
    handOn (chooseEncoding none h e p u) = (none, (h.or e).or p) := by
  cases h <;> cases e <;> cases p <;> rfl

def loads (f : Fetch) : Bool := f = .text || f = .bytesOk

/-- whatever the fetcher does, nothing escapes `_setHref`: the sheet is loaded or stays empty -/
theorem contained (f : Fetch) :
    setHref true f = some (if loads f then .loaded else .failedEmpty) := by
  cases f <;> rfl

end CssVerif.Import
