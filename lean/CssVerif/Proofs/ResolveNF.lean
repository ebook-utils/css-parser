import CssVerif.Model.Resolve
/-!
The in-order `CSSStyleSheet.add` on arranged sheets.

Every sheet `resolveImports` builds is arranged as [one comment] @imports, @namespaces without clashes,
everything else (`NF`).  On such a sheet the place where `add` puts a rule can be computed (`add_import_arr`,
`add_ns_eq`): the sheet stays arranged and the rule joins the rules of its kind (`add_spec`); and adding the
rules of an arranged sheet one by one to the empty sheet rebuilds it (`addAll_rebuild`).
-/
namespace CssVerif.Resolve

def imports (t : Sheet) : Sheet := t.filter Rule.isImport
def body (t : Sheet) : Sheet := t.filter Rule.isBody
def hasNs (t : Sheet) : Bool := t.any Rule.isNs

theorem filter_neg {p : Rule → Bool} {l : Sheet} (h : ∀ x ∈ l, p x = false) : l.filter p = [] :=
  List.filter_eq_nil_iff.2 (fun x hx => by simp [h x hx])

theorem any_neg {p : Rule → Bool} {l : Sheet} (h : ∀ x ∈ l, p x = false) : l.any p = false :=
  List.any_eq_false.2 (fun x hx => by simp [h x hx])

theorem imports_cons (r : Rule) (rs : Sheet) :
    imports (r :: rs) = (if r.isImport then [r] else []) ++ imports rs := by
  simp only [imports, List.filter_cons]; split <;> rfl

theorem body_cons (r : Rule) (rs : Sheet) : body (r :: rs) = (if r.isBody then [r] else []) ++ body rs := by
  simp only [body, List.filter_cons]; split <;> rfl

section
variable {x : Rule}

theorem isNs_of_import (h : x.isImport = true) : x.isNs = false := by cases x <;> first | rfl | cases h
theorem isCharset_of_import (h : x.isImport = true) : x.isCharset = false := by cases x <;> first | rfl | cases h
theorem isBody_of_import (h : x.isImport = true) : x.isBody = false := by cases x <;> first | rfl | cases h
theorem isNs_of_body (h : x.isBody = true) : x.isNs = false := by cases x <;> first | rfl | cases h
theorem isCharset_of_body (h : x.isBody = true) : x.isCharset = false := by cases x <;> first | rfl | cases h
theorem isImport_of_body (h : x.isBody = true) : x.isImport = false := by cases x <;> first | rfl | cases h
theorem isCand_of_body (h : x.isBody = true) : x.isCand = true := by cases x <;> first | rfl | cases h
theorem isImport_of_ns (h : x.isNs = true) : x.isImport = false := by cases x <;> first | rfl | cases h
theorem isCharset_of_ns (h : x.isNs = true) : x.isCharset = false := by cases x <;> first | rfl | cases h
theorem isBody_of_ns (h : x.isNs = true) : x.isBody = false := by cases x <;> first | rfl | cases h
theorem isBody_of_comment (h : x.isComment = true) : x.isBody = true := by cases x <;> first | rfl | cases h
theorem isBody_of_canWrap (h : x.canWrap = true) : x.isBody = true := by cases x <;> first | rfl | cases h
theorem mediaForbids_of_canWrap (h : x.canWrap = true) : x.mediaForbids = false := by
  cases x <;> first | rfl | cases h

end

theorem mem_insertAt (s : Sheet) (i : Nat) (r : Rule) : r ∈ insertAt s i r := by
  unfold insertAt; simp

theorem insertAt_append (a b : Sheet) (r : Rule) : insertAt (a ++ b) a.length r = a ++ r :: b := by
  simp [insertAt]

theorem insertAt_end (s : Sheet) (r : Rule) : insertAt s s.length r = s ++ [r] := by
  simpa using insertAt_append s [] r

theorem afterLast_none_of (p : Rule → Bool) : ∀ (s : Sheet), (∀ y ∈ s, p y = false) → afterLast p s = none
  | [], _ => rfl
  | x :: xs, h => by
    unfold afterLast
    rw [afterLast_none_of p xs (fun y hy => h y (by simp [hy])), h x (by simp)]
    simp

theorem afterLast_eq (p : Rule → Bool) (x : Rule) (b : Sheet) (hb : ∀ y ∈ b, p y = false) (hx : p x = true) :
    ∀ (a : Sheet), afterLast p (a ++ x :: b) = some (a.length + 1)
  | [] => by
    simp only [List.nil_append, afterLast, afterLast_none_of p b hb, hx, if_true, List.length_nil]
  | a0 :: a => by
    simp only [List.cons_append, afterLast, afterLast_eq p x b hb hx a, List.length_cons]

theorem firstFrom_at (p : Rule → Bool) (b : Sheet) (hb : ∀ x ∈ b.head?, p x = true) : ∀ (a : Sheet) (i : Nat),
    (firstFrom p (i + a.length) (a ++ b) i).getD (i + (a ++ b).length) = i + a.length
  | [], i => by
    cases b with
    | nil => rfl
    | cons x b' => simp [firstFrom, hb x rfl]
  | y :: a, i => by
    have := firstFrom_at p b hb a (i + 1)
    simp only [List.cons_append, List.length_cons, firstFrom] at this ⊢
    rw [show i + (a.length + 1) = i + 1 + a.length by omega,
      show i + ((a ++ b).length + 1) = i + 1 + (a ++ b).length by omega]
    have hlt : ¬ i + 1 + a.length ≤ i := by omega
    simpa [hlt] using this

theorem concat_of_ne_nil {α : Type} (l : List α) (h : l ≠ []) : ∃ l' x, l = l' ++ [x] :=
  ⟨_, _, (List.dropLast_concat_getLast h).symm⟩

theorem afterLast_mid (p : Rule → Bool) (a m b : Sheet) (hm : ∀ x ∈ m, p x = true) (hne : m ≠ [])
    (hb : ∀ y ∈ b, p y = false) : afterLast p (a ++ m ++ b) = some (a ++ m).length := by
  obtain ⟨m', x, rfl⟩ := concat_of_ne_nil m hne
  have := afterLast_eq p x b hb (hm x (by simp)) (a ++ m')
  simp only [List.append_assoc, List.cons_append, List.nil_append, List.length_append, List.length_cons,
    List.length_nil] at this ⊢
  rw [this]; congr 1

theorem viewOf_nil : viewOf [] = [] := rfl

def compat (a b : Nat × Nat) : Bool := a.1 != b.1 && a.2 != b.2
def Inj (l : List (Nat × Nat)) : Prop := l.Pairwise (fun a b => compat a b = true)

theorem compat_symm (a b : Nat × Nat) : compat a b = compat b a := by
  unfold compat
  rw [bne_comm, @bne_comm _ _ _ a.2]

def viewStep (d : List (Nat × Nat)) (pu : Nat × Nat) : List (Nat × Nat) :=
  if d.any (·.2 = pu.2) || d.any (·.1 = pu.1) then d else d ++ [pu]

theorem viewOf_eq (l : List (Nat × Nat)) : viewOf l = l.reverse.foldl viewStep [] := rfl

theorem viewStep_cons (pu x : Nat × Nat) (d : List (Nat × Nat)) (h : ∀ y ∈ d, compat y x = true) :
    viewStep (pu :: d) x = if compat pu x then pu :: d ++ [x] else pu :: d := by
  have h2 : d.any (·.2 = x.2) = false := List.any_eq_false.2 fun y hy => by
    have := h y hy; simp only [compat, Bool.and_eq_true, bne_iff_ne] at this; simp [this.2]
  have h1 : d.any (·.1 = x.1) = false := List.any_eq_false.2 fun y hy => by
    have := h y hy; simp only [compat, Bool.and_eq_true, bne_iff_ne] at this; simp [this.1]
  simp only [viewStep, List.any_cons, h1, h2, Bool.or_false, compat]
  by_cases e1 : pu.1 = x.1 <;> by_cases e2 : pu.2 = x.2 <;> simp [e1, e2]

theorem inj_reverse (l : List (Nat × Nat)) (h : Inj l) : Inj l.reverse := by
  unfold Inj at h ⊢
  rw [List.pairwise_reverse]
  exact h.imp (fun {a b} hab => by rw [compat_symm]; exact hab)

/-- a new last declaration displaces exactly the earlier ones it clashes with -/
theorem foldl_view_new (pu : Nat × Nat) : ∀ (m d : List (Nat × Nat)),
    (∀ x ∈ m, ∀ y ∈ d, compat y x = true) → Inj m →
    m.foldl viewStep (pu :: d) = pu :: (d ++ m.filter (fun x => compat pu x))
  | [], d, _, _ => by simp
  | x :: m, d, h, hi => by
    rw [Inj, List.pairwise_cons] at hi
    rw [List.foldl_cons, List.filter_cons, viewStep_cons pu x d (h x (by simp))]
    cases compat pu x with
    | false => exact foldl_view_new pu m d (fun x' hx' y hy => h x' (by simp [hx']) y hy) hi.2
    | true =>
      have := foldl_view_new pu m (d ++ [x]) (by
        intro x' hx' y hy
        rcases List.mem_append.1 hy with hy | hy
        · exact h x' (by simp [hx']) y hy
        · simp only [List.mem_singleton] at hy; subst hy; exact hi.1 x' hx') hi.2
      simpa using this

theorem viewOf_new (P : List (Nat × Nat)) (pu : Nat × Nat) (h : Inj P) :
    viewOf (P ++ [pu]) = pu :: P.reverse.filter (fun x => compat pu x) := by
  rw [viewOf_eq, List.reverse_append]
  simp only [List.reverse_cons, List.reverse_nil, List.nil_append, List.cons_append, List.foldl_cons]
  have h0 : viewStep [] pu = [pu] := by simp [viewStep]
  rw [h0, foldl_view_new pu P.reverse [] (by simp) (inj_reverse P h)]; simp

theorem viewOf_inj (l : List (Nat × Nat)) (h : Inj l) : viewOf l = l.reverse := by
  cases l with
  | nil => rfl
  | cons x xs =>
    obtain ⟨P, pu, e⟩ := concat_of_ne_nil (x :: xs) (List.cons_ne_nil x xs)
    rw [e] at h ⊢
    unfold Inj at h
    rw [List.pairwise_append] at h
    rw [viewOf_new P pu h.1, List.filter_eq_self.2, List.reverse_append]
    · rfl
    · intro x hx
      rw [compat_symm]
      exact h.2.2 x (List.mem_reverse.1 hx) pu (by simp)

theorem dictGet_of_mem : ∀ (l : List (Nat × Nat)) (p u : Nat), Inj l → (p, u) ∈ l → dictGet l p = some u
  | [], _, _, _, h => by simp at h
  | (a, b) :: l, p, u, hi, h => by
    rw [Inj, List.pairwise_cons] at hi
    rcases List.mem_cons.1 h with h | h
    · cases h; simp [dictGet]
    · have hne : a ≠ p := fun e => by have := hi.1 (p, u) h; simp [compat, e] at this
      have := dictGet_of_mem l p u hi.2 h
      simpa [dictGet, List.find?_cons, hne] using this

theorem dictGet_mem (l : List (Nat × Nat)) (p u : Nat) (h : dictGet l p = some u) : (p, u) ∈ l := by
  obtain ⟨⟨a, b⟩, hf, hb⟩ := Option.map_eq_some_iff.1 h
  have ha := List.find?_some hf
  simp only [decide_eq_true_eq] at ha hb
  subst ha hb
  exact List.mem_of_find?_eq_some hf

/-! ### `_cleanNamespaces` -/

theorem cleanGo_other {items : List (Nat × Nat)} {used : List Nat} {acc rest : Sheet} {r : Rule}
    (h : r.isNs = false) : cleanGo items used acc (r :: rest) = cleanGo items used (acc ++ [r]) rest := by
  cases r <;> first | rfl | cases h

/-- what `_cleanNamespaces` leaves: every rule but the @namespace rules that are not items of the view -/
def keepNs (items : List (Nat × Nat)) : Rule → Bool
  | .ns p u => items.contains (p, u)
  | _ => true

theorem cleanGo_eq (items : List (Nat × Nat)) (used : List Nat) : ∀ (rest acc out : Sheet),
    cleanGo items used acc rest = some out → out = acc ++ rest.filter (keepNs items)
  | [], acc, out, h => by simpa [cleanGo] using h.symm
  | r :: rest, acc, out, h => by
    cases r with
    | ns p u =>
      unfold cleanGo at h
      by_cases hc : items.contains (p, u) = true
      · rw [if_pos hc] at h
        rw [cleanGo_eq items used rest _ out h, List.filter_cons]; simpa [keepNs] using hc
      · rw [if_neg hc] at h
        split at h
        · cases h
        · rw [cleanGo_eq items used rest _ out h, List.filter_cons]; simpa [keepNs] using hc
    | _ =>
      rw [cleanGo_other rfl] at h
      rw [cleanGo_eq items used rest _ out h, List.append_assoc]; rfl

def nsRules (P : List (Nat × Nat)) : Sheet := P.map (fun pu => Rule.ns pu.1 pu.2)

def LeadComment (c : Sheet) : Prop := c = [] ∨ ∃ x, c = [x] ∧ x.isComment = true

/-- what stands in front of the @imports: at most one comment, and that only when there is an @import — the
in-order place of the first @import is behind a leading comment, and nothing else leaves a comment in front -/
def HeadOk (c I : Sheet) : Prop := c = [] ∨ ∃ x, c = [x] ∧ x.isComment = true ∧ I ≠ []

theorem HeadOk.lead {c I : Sheet} (h : HeadOk c I) : LeadComment c :=
  h.imp id fun ⟨x, h1, h2, _⟩ => ⟨x, h1, h2⟩

structure Arr (c I : Sheet) (P : List (Nat × Nat)) (B : Sheet) : Prop where
  head : HeadOk c I
  allImp : ∀ x ∈ I, x.isImport = true
  inj : Inj P
  allBody : ∀ x ∈ B, x.isBody = true

/-- [one comment] @imports, @namespaces without clashes, then everything else -/
def NF (t : Sheet) : Prop := ∃ c I P B, t = c ++ I ++ nsRules P ++ B ∧ Arr c I P B

theorem NF_nil : NF [] := ⟨[], [], [], [], rfl, Or.inl rfl, by simp, List.Pairwise.nil, by simp⟩

theorem isNs_of_nsRules {P : List (Nat × Nat)} {x : Rule} (h : x ∈ nsRules P) : x.isNs = true := by
  simp only [nsRules, List.mem_map] at h
  obtain ⟨pu, _, rfl⟩ := h
  rfl

section
variable {c I B : Sheet} {P : List (Nat × Nat)}

theorem HeadOk.nil (h : HeadOk c []) : c = [] := by
  rcases h with h | ⟨x, _, _, hne⟩
  · exact h
  · exact absurd rfl hne

theorem Arr.head_body (a : Arr c I P B) : ∀ x ∈ c, x.isBody = true := by
  intro x hx
  rcases a.head with h | ⟨y, h, hy, _⟩
  · subst h; simp at hx
  · subst h; simp at hx; subst hx; exact isBody_of_comment hy

theorem Arr.not_mem (a : Arr c I P B) (p : Rule → Bool) (hb : ∀ x, x.isBody = true → p x = false)
    (hi : ∀ x, x.isImport = true → p x = false) :
    (∀ x ∈ c, p x = false) ∧ (∀ x ∈ I, p x = false) ∧ (∀ x ∈ B, p x = false) :=
  ⟨fun x hx => hb x (a.head_body x hx), fun x hx => hi x (a.allImp x hx), fun x hx => hb x (a.allBody x hx)⟩

theorem Arr.noNs (a : Arr c I P B) :
    (∀ x ∈ c, x.isNs = false) ∧ (∀ x ∈ I, x.isNs = false) ∧ (∀ x ∈ B, x.isNs = false) :=
  a.not_mem _ (fun _ => isNs_of_body) (fun _ => isNs_of_import)

theorem NF_noCharset {t : Sheet} (hn : NF t) : ∀ x ∈ t, x.isCharset = false := by
  obtain ⟨c, I, P, B, rfl, a⟩ := hn
  obtain ⟨h1, h2, h3⟩ := a.not_mem _ (fun _ => isCharset_of_body) (fun _ => isCharset_of_import)
  intro x hx
  simp only [List.mem_append] at hx
  rcases hx with ((hx | hx) | hx) | hx
  · exact h1 x hx
  · exact h2 x hx
  · exact isCharset_of_ns (isNs_of_nsRules hx)
  · exact h3 x hx

theorem Arr.proj (a : Arr c I P B) : imports (c ++ I ++ nsRules P ++ B) = I ∧
    body (c ++ I ++ nsRules P ++ B) = c ++ B ∧ hasNs (c ++ I ++ nsRules P ++ B) = !P.isEmpty := by
  refine ⟨?_, ?_, ?_⟩
  · simp only [imports, List.filter_append]
    rw [filter_neg (fun x hx => isImport_of_body (a.head_body x hx)), List.filter_eq_self.2 a.allImp,
      filter_neg (fun x hx => isImport_of_ns (isNs_of_nsRules hx)), filter_neg (fun x hx => isImport_of_body (a.allBody x hx))]
    simp
  · simp only [body, List.filter_append]
    rw [List.filter_eq_self.2 a.head_body, filter_neg (fun x hx => isBody_of_import (a.allImp x hx)),
      filter_neg (fun x hx => isBody_of_ns (isNs_of_nsRules hx)), List.filter_eq_self.2 a.allBody]
    simp
  · obtain ⟨n1, n2, n3⟩ := a.noNs
    simp only [hasNs, List.any_append]
    rw [any_neg n1, any_neg n2, any_neg n3]
    cases P <;> simp [nsRules, Rule.isNs]

theorem nsPairs_append : ∀ (a b : Sheet), nsPairs (a ++ b) = nsPairs a ++ nsPairs b
  | [], b => rfl
  | r :: a, b => by cases r <;> simp [nsPairs, nsPairs_append a b]

theorem nsPairs_nsRules : ∀ (P : List (Nat × Nat)), nsPairs (nsRules P) = P
  | [] => rfl
  | pu :: P => by simp [nsRules, nsPairs] at *; exact nsPairs_nsRules P

theorem nsPairs_noNs : ∀ (a : Sheet), (∀ x ∈ a, x.isNs = false) → nsPairs a = []
  | [], _ => rfl
  | r :: a, h => by
    have ih := nsPairs_noNs a (fun x hx => h x (by simp [hx]))
    have hr := h r (by simp)
    cases r <;> first | simpa [nsPairs] using ih | cases hr

theorem mem_nsPairs : ∀ (s : Sheet) (p u : Nat), (p, u) ∈ nsPairs s ↔ Rule.ns p u ∈ s
  | [], _, _ => by simp [nsPairs]
  | r :: rs, p, u => by
    cases r <;> simp [nsPairs, mem_nsPairs rs p u]

theorem Arr.nsPairs_eq (a : Arr c I P B) (Q : List (Nat × Nat)) : nsPairs (c ++ I ++ nsRules Q ++ B) = Q := by
  obtain ⟨n1, n2, n3⟩ := a.noNs
  rw [nsPairs_append, nsPairs_append, nsPairs_append, nsPairs_nsRules, nsPairs_noNs c n1, nsPairs_noNs I n2,
    nsPairs_noNs B n3]
  simp

/-- an @import goes behind the last @import; the first one goes to the front, behind a leading comment -/
theorem add_import_arr (a : Arr c I P B) (i q : Nat) (tg : Option (List Rule)) :
    ∃ c' B', add (c ++ I ++ nsRules P ++ B) (.imp i q tg) = some (c' ++ (I ++ [.imp i q tg]) ++ nsRules P ++ B') ∧
      Arr c' (I ++ [.imp i q tg]) P B' ∧ c' ++ B' = c ++ B := by
  have hrest : ∀ y ∈ nsRules P ++ B, y.isImport = false := by
    intro y hy
    rcases List.mem_append.1 hy with hy | hy
    · exact isImport_of_ns (isNs_of_nsRules hy)
    · exact isImport_of_body (a.allBody y hy)
  have hI' : ∀ x ∈ I ++ [Rule.imp i q tg], x.isImport = true := by
    intro y hy
    rcases List.mem_append.1 hy with hy | hy
    · exact a.allImp y hy
    · simp at hy; subst hy; rfl
  simp only [add, importIdx]
  by_cases hIe : I = []
  · subst hIe
    have hc0 := a.head.nil
    subst hc0
    simp only [List.nil_append, List.append_nil]
    rw [afterLast_none_of _ _ hrest]
    simp only [Option.getD_none]
    cases P with
    | cons pu P' =>
      exact ⟨[], B, by simp [nsRules, headIs, Rule.isCharset, Rule.isComment, insertAt],
        ⟨Or.inl rfl, hI', a.inj, a.allBody⟩, rfl⟩
    | nil =>
      cases B with
      | nil => exact ⟨[], [], by simp [nsRules, headIs, insertAt], ⟨Or.inl rfl, hI', a.inj, a.allBody⟩, rfl⟩
      | cons x B' =>
        by_cases hxc : x.isComment = true
        · exact ⟨[x], B', by simp [nsRules, headIs, hxc, insertAt],
            ⟨Or.inr ⟨x, rfl, hxc, by simp⟩, hI', a.inj, fun y hy => a.allBody y (by simp [hy])⟩, rfl⟩
        · exact ⟨[], x :: B', by simp [nsRules, headIs, hxc, isCharset_of_body (a.allBody x (by simp)), insertAt],
            ⟨Or.inl rfl, hI', a.inj, a.allBody⟩, rfl⟩
  · rw [show c ++ I ++ nsRules P ++ B = c ++ I ++ (nsRules P ++ B) by simp, afterLast_mid _ c I _ a.allImp hIe hrest]
    simp only [Option.getD_some]
    rw [insertAt_append]
    refine ⟨c, B, by simp, ⟨?_, hI', a.inj, a.allBody⟩, rfl⟩
    rcases a.head with hc | ⟨x, hx, hxc, _⟩
    · exact Or.inl hc
    · exact Or.inr ⟨x, hx, hxc, by simp⟩

/-- an @namespace rule goes behind the last one; the first one goes in front of the body rules -/
theorem Arr.nsIdx_eq (a : Arr c I P B) : nsIdx (c ++ I ++ nsRules P ++ B) = (c ++ I ++ nsRules P).length := by
  obtain ⟨n1, n2, n3⟩ := a.noNs
  have m3 : ∀ y ∈ B, (y.isCharset || y.isImport) = false := fun y hy => by
    simp [isCharset_of_body (a.allBody y hy), isImport_of_body (a.allBody y hy)]
  unfold nsIdx
  by_cases hPe : P = []
  · subst hPe
    simp only [nsRules, List.map_nil, List.append_nil]
    rw [afterLast_none_of Rule.isNs (c ++ I ++ B) (fun y hy => by
      simp only [List.mem_append] at hy
      rcases hy with (hy | hy) | hy
      · exact n1 y hy
      · exact n2 y hy
      · exact n3 y hy)]
    simp only [Option.getD_none]
    have hstart : (afterLast (fun x => x.isCharset || x.isImport) (c ++ I ++ B)).getD 0 = (c ++ I).length := by
      by_cases hIe : I = []
      · subst hIe
        have hc0 := a.head.nil
        subst hc0
        simp only [List.nil_append, List.length_nil]
        rw [afterLast_none_of _ B m3]
        rfl
      · rw [afterLast_mid _ c I B (fun x hx => by simp [a.allImp x hx]) hIe m3]
        rfl
    rw [hstart]
    simpa using firstFrom_at Rule.isCand B
      (fun x hx => isCand_of_body (a.allBody x (List.mem_of_mem_head? hx))) (c ++ I) 0
  · rw [afterLast_mid Rule.isNs (c ++ I) (nsRules P) B (fun _ => isNs_of_nsRules)
      (by simpa [nsRules] using hPe) n3]
    rfl

theorem filter_nsRules (items : List (Nat × Nat)) : ∀ (P : List (Nat × Nat)),
    (nsRules P).filter (keepNs items) = nsRules (P.filter (fun pu => items.contains pu))
  | [] => rfl
  | (p, u) :: P => by
    have ih := filter_nsRules items P
    simp only [nsRules] at ih
    by_cases h : items.contains (p, u) = true
    · simp only [nsRules, List.map_cons, List.filter_cons, keepNs, h, if_true, ih]
    · simp only [nsRules, List.map_cons, List.filter_cons, keepNs, h, Bool.false_eq_true, if_false, ih]

theorem filter_keep_noNs (items : List (Nat × Nat)) (a : Sheet) (h : ∀ x ∈ a, x.isNs = false) :
    a.filter (keepNs items) = a := by
  apply List.filter_eq_self.2
  intro x hx
  have := h x hx
  cases x <;> first | rfl | cases this

/-- the @namespace declarations after one more: an old one changes nothing, a new one displaces the ones it clashes with -/
def declare (P : List (Nat × Nat)) (pu : Nat × Nat) : List (Nat × Nat) :=
  if pu ∈ P then P else P.filter (fun x => compat pu x) ++ [pu]

theorem filter_view_new (P : List (Nat × Nat)) (pu : Nat × Nat) (hP : Inj P) (hnot : pu ∉ P) :
    (P ++ [pu]).filter (fun x => (viewOf (P ++ [pu])).contains x) = P.filter (fun x => compat pu x) ++ [pu] := by
  rw [viewOf_new P pu hP, List.filter_append]
  congr 1
  · apply List.filter_congr
    intro x hx
    have hne : x ≠ pu := fun h => hnot (h ▸ hx)
    rw [Bool.eq_iff_iff]
    simp only [List.contains_iff_mem, List.mem_cons, List.mem_filter, List.mem_reverse]
    constructor
    · rintro (h | ⟨_, h⟩)
      · exact absurd h hne
      · exact h
    · intro h; exact Or.inr ⟨hx, h⟩
  · simp

theorem inj_filter_compat (P : List (Nat × Nat)) (pu : Nat × Nat) (hP : Inj P) : Inj (P.filter (fun x => compat pu x) ++ [pu]) := by
  unfold Inj at hP ⊢
  rw [List.pairwise_append]
  refine ⟨hP.filter _, by simp, ?_⟩
  intro a ha b hb
  simp only [List.mem_singleton] at hb; subst hb
  rw [compat_symm]
  exact (List.mem_filter.1 ha).2

/-- a declaration that is effective already changes nothing; any other one is put behind the last
@namespace rule, and `_cleanNamespaces` runs with the view in which it is the last declaration -/
theorem add_ns_eq (a : Arr c I P B) (p u : Nat) : add (c ++ I ++ nsRules P ++ B) (.ns p u) =
    if dictGet P.reverse p = some u then some (c ++ I ++ nsRules P ++ B)
    else cleanGo (viewOf (P ++ [(p, u)])) (usedL (c ++ I ++ nsRules (P ++ [(p, u)]) ++ B)) []
      (c ++ I ++ nsRules (P ++ [(p, u)]) ++ B) := by
  have hshape : c ++ I ++ nsRules P ++ Rule.ns p u :: B = c ++ I ++ nsRules (P ++ [(p, u)]) ++ B := by
    simp [nsRules]
  simp only [add]
  rw [view, a.nsPairs_eq, viewOf_inj P a.inj, a.nsIdx_eq, insertAt_append, hshape, cleanNamespaces, view, a.nsPairs_eq]

theorem add_ns_arr (a : Arr c I P B) (p u : Nat) (t' : Sheet) (h : add (c ++ I ++ nsRules P ++ B) (.ns p u) = some t') :
    t' = c ++ I ++ nsRules (declare P (p, u)) ++ B ∧ Arr c I (declare P (p, u)) B ∧ declare P (p, u) ≠ [] := by
  rw [add_ns_eq a] at h
  unfold declare
  by_cases hm : (p, u) ∈ P
  · rw [if_pos (dictGet_of_mem P.reverse p u (inj_reverse P a.inj) (by simpa using hm))] at h
    rw [if_pos hm]
    injection h with h; subst h
    exact ⟨rfl, a, List.ne_nil_of_mem hm⟩
  · rw [if_neg (fun hd => hm (by simpa using dictGet_mem _ _ _ hd))] at h
    rw [if_neg hm]
    obtain ⟨n1, n2, n3⟩ := a.noNs
    have he := cleanGo_eq _ _ _ _ _ h
    simp only [List.nil_append, List.filter_append] at he
    rw [filter_keep_noNs _ c n1, filter_keep_noNs _ I n2, filter_keep_noNs _ B n3, filter_nsRules,
      filter_view_new P (p, u) a.inj hm] at he
    exact ⟨he, ⟨a.head, a.allImp, inj_filter_compat P (p, u) a.inj, a.allBody⟩, by simp⟩

theorem add_body (t : Sheet) (x : Rule) (h : x.isBody = true) : add t x = some (t ++ [x]) := by
  cases x <;> first | rfl | cases h

theorem NF_append_body {t : Sheet} {r : Rule} (hn : NF t) (hb : r.isBody = true) : NF (t ++ [r]) := by
  obtain ⟨c, I, P, B, rfl, a⟩ := hn
  exact ⟨c, I, P, B ++ [r], by simp, a.head, a.allImp, a.inj, by
    intro y hy; rcases List.mem_append.1 hy with hy | hy
    · exact a.allBody y hy
    · simp at hy; subst hy; exact hb⟩

theorem proj_append (t : Sheet) (r : Rule) : imports (t ++ [r]) = imports t ++ (if r.isImport then [r] else []) ∧
    body (t ++ [r]) = body t ++ (if r.isBody then [r] else []) ∧ hasNs (t ++ [r]) = (hasNs t || r.isNs) := by
  simp only [imports, body, hasNs, List.filter_append, List.any_append, List.filter_cons, List.filter_nil, List.any_cons,
    List.any_nil, Bool.or_false, and_self]

/-- `t` is arranged, and it is `t0` with the @imports `I` and the body rules `B` more, and an @namespace rule more if `n` -/
structure Extends (t0 I : Sheet) (n : Bool) (B t : Sheet) : Prop where
  nf : NF t
  imps : imports t = imports t0 ++ I
  bodies : body t = body t0 ++ B
  ns : hasNs t = (hasNs t0 || n)

theorem Extends.refl {t : Sheet} (hn : NF t) : Extends t [] false [] t :=
  ⟨hn, by simp, by simp, by simp⟩

theorem Extends.of_nil {I B t : Sheet} {n : Bool} (h : Extends [] I n B t) :
    imports t = I ∧ body t = B ∧ hasNs t = n :=
  ⟨h.imps, h.bodies, h.ns⟩

theorem add_spec {t t' : Sheet} {r : Rule} (hn : NF t) (hr : r.isCharset = false) (h : add t r = some t') :
    Extends t (if r.isImport then [r] else []) r.isNs (if r.isBody then [r] else []) t' := by
  cases r with
  | charset e => cases hr
  | imp i q tg =>
    obtain ⟨c, I, P, B, rfl, a⟩ := hn
    obtain ⟨c', B', e, a', hcb⟩ := add_import_arr a i q tg
    rw [e] at h; injection h with h; subst h
    obtain ⟨p1, p2, p3⟩ := a.proj
    obtain ⟨q1, q2, q3⟩ := a'.proj
    exact ⟨⟨_, _, _, _, rfl, a'⟩, by rw [q1, p1]; rfl, by rw [q2, p2, hcb]; exact (List.append_nil _).symm,
      by rw [q3, p3]; exact (Bool.or_false _).symm⟩
  | ns p u =>
    obtain ⟨c, I, P, B, rfl, a⟩ := hn
    obtain ⟨rfl, a', hne⟩ := add_ns_arr a p u t' h
    obtain ⟨p1, p2, p3⟩ := a.proj
    obtain ⟨q1, q2, q3⟩ := a'.proj
    refine ⟨⟨_, _, _, _, rfl, a'⟩, by rw [q1, p1]; exact (List.append_nil _).symm,
      by rw [q2, p2]; exact (List.append_nil _).symm, ?_⟩
    rw [q3, show (Rule.ns p u).isNs = true from rfl, Bool.or_true]
    cases hP : declare P (p, u) with
    | nil => exact absurd hP hne
    | cons => rfl
  | _ =>
    rw [add_body _ _ rfl] at h; injection h with h; subst h
    obtain ⟨e1, e2, e3⟩ := proj_append t _
    exact ⟨NF_append_body hn rfl, e1, e2, e3⟩

end

theorem add_start (t : Sheet) (i : Nat) : add t (.start i) = some (t ++ [.start i]) := rfl

/-! ### adding the rules of an arranged sheet one by one rebuilds it -/

theorem addAll_append : ∀ (a b t : Sheet), addAll t (a ++ b) = (addAll t a).bind (fun t' => addAll t' b)
  | [], b, t => rfl
  | r :: a, b, t => by
    simp only [List.cons_append, addAll]
    cases add t r with
    | none => rfl
    | some t1 => exact addAll_append a b t1

theorem addAll_trans {a b t t1 t2 : Sheet} (h1 : addAll t a = some t1) (h2 : addAll t1 b = some t2) :
    addAll t (a ++ b) = some t2 := by
  rw [addAll_append, h1]; exact h2

theorem addAll_end {α : Type} (f : α → Rule) : ∀ (l : List α) (t : Sheet),
    (∀ pre x post, l = pre ++ x :: post → add (t ++ pre.map f) (f x) = some (t ++ pre.map f ++ [f x])) →
    addAll t (l.map f) = some (t ++ l.map f)
  | [], t, _ => by simp [addAll]
  | x :: l, t, h => by
    have h0 := h [] x l rfl
    simp only [List.map_nil, List.append_nil] at h0
    simp only [List.map_cons, addAll, h0]
    rw [addAll_end f l (t ++ [f x]) (fun pre y post e => by simpa using h (x :: pre) y post (by rw [e]; rfl))]
    simp

theorem addAll_body (B t : Sheet) (hB : ∀ x ∈ B, x.isBody = true) : addAll t B = some (t ++ B) := by
  simpa using addAll_end id B t (fun pre x post e => add_body _ x (hB x (by simp [e])))

theorem importIdx_end (c I : Sheet) (hc : LeadComment c)
    (hI : ∀ x ∈ I, x.isImport = true) : importIdx (c ++ I) = (c ++ I).length := by
  by_cases hIe : I = []
  · subst hIe
    rcases hc with hc | ⟨x, hc, hx⟩
    · subst hc; rfl
    · subst hc
      simp [importIdx, afterLast, isImport_of_body (isBody_of_comment hx), headIs, hx]
  · have := afterLast_mid Rule.isImport c I [] hI hIe (by simp)
    simp only [List.append_nil] at this
    simp [importIdx, this]

theorem addAll_imports (c I : Sheet) (hc : LeadComment c)
    (hI : ∀ x ∈ I, x.isImport = true) : addAll c I = some (c ++ I) := by
  have := addAll_end id I c (fun pre r post e => by
    have hr : r.isImport = true := hI r (by simp [e])
    have hpre : ∀ x ∈ pre, x.isImport = true := fun x hx => hI x (by simp [e, hx])
    cases r <;> first | cases hr | skip
    simp only [id, List.map_id, add, importIdx_end c pre hc hpre, insertAt_end])
  simpa using this

theorem cleanGo_all (items : List (Nat × Nat)) (used : List Nat) : ∀ (rest acc : Sheet),
    (∀ p u, Rule.ns p u ∈ rest → items.contains (p, u) = true) → cleanGo items used acc rest = some (acc ++ rest)
  | [], acc, _ => by simp [cleanGo]
  | r :: rest, acc, h => by
    have ih := cleanGo_all items used rest (acc ++ [r]) (fun p u hm => h p u (by simp [hm]))
    cases r with
    | ns p u => unfold cleanGo; rw [if_pos (h p u (by simp)), ih, List.append_assoc]; rfl
    | _ => rw [cleanGo_other rfl, ih, List.append_assoc]; rfl

theorem addAll_namespaces {c I : Sheet} {P : List (Nat × Nat)} (a : Arr c I P []) :
    addAll (c ++ I) (nsRules P) = some (c ++ I ++ nsRules P) := by
  refine addAll_end (fun pu => Rule.ns pu.1 pu.2) P (c ++ I) (fun P1 pu P2 e => ?_)
  obtain ⟨p, u⟩ := pu
  have hinj : Inj (P1 ++ [(p, u)]) := by
    have := a.inj
    rw [e, show P1 ++ (p, u) :: P2 = (P1 ++ [(p, u)]) ++ P2 by simp, Inj, List.pairwise_append] at this
    exact this.1
  have a1 : Arr c I P1 [] := ⟨a.head, a.allImp, (List.pairwise_append.1 hinj).1, a.allBody⟩
  have hnd : ¬ dictGet P1.reverse p = some u := by
    intro hd
    have hm : (p, u) ∈ P1 := by simpa using dictGet_mem _ _ _ hd
    have := (List.pairwise_append.1 hinj).2.2 (p, u) hm (p, u) (by simp)
    simp [compat] at this
  have := add_ns_eq a1 p u
  rw [if_neg hnd, cleanGo_all] at this
  · simpa [nsRules] using this
  · intro p' u' hm
    have := (mem_nsPairs _ p' u').2 hm
    rw [a1.nsPairs_eq] at this
    rw [viewOf_inj _ hinj, List.contains_iff_mem, List.mem_reverse]
    exact this

theorem addAll_rebuild {t : Sheet} (hn : NF t) : addAll [] t = some t := by
  obtain ⟨c, I, P, B, rfl, a⟩ := hn
  exact addAll_trans (addAll_trans (addAll_trans (addAll_body c [] a.head_body) (addAll_imports c I a.head.lead a.allImp))
    (addAll_namespaces ⟨a.head, a.allImp, a.inj, by simp⟩)) (addAll_body B _ a.allBody)

end CssVerif.Resolve
