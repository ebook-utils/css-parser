/-
Number formatting, the parts that do not depend on the branch taken: rounding to six places, digit strings,
how `splitNum` and `decimalValue` read a sign, digits and a fraction back, and what `'%f'` followed by
`_strip_zeros` leaves.
-/
import CssVerif.Model.Number
namespace CssVerif.Number

/-- `a` and `b` have the same sign flag and are the same fraction (cross-multiplied; denominators are not
reduced, so this is not equality) -/
def Q.same (a b : Q) : Prop := a.neg = b.neg ∧ a.num * b.den = b.num * a.den

theorem same_num_zero (v e : Q) (h : Q.same v e) (hv : 0 < v.den) (he : 0 < e.den) : v.num = 0 ↔ e.num = 0 := by
  have h2 := h.2
  constructor
  · intro h0
    rw [h0, Nat.zero_mul] at h2
    exact (Nat.mul_eq_zero.mp h2.symm).resolve_right (Nat.ne_of_gt hv)
  · intro h0
    rw [h0, Nat.zero_mul] at h2
    exact (Nat.mul_eq_zero.mp h2).resolve_right (Nat.ne_of_gt he)

def minus (neg : Bool) : Text := if neg then [45] else []

theorem minus_eq (neg : Bool) : minus neg = signText (if neg then some 45 else none) := by
  cases neg <;> rfl

/-- the decimal text `ip . fp` (digits) with an optional minus -/
def decimalText (neg : Bool) (ip fp : List Nat) : Text := minus neg ++ ip ++ 46 :: fp

/-- the text starts with `.` and a digit (so that, after an integer, it would be read as a fraction) -/
def dotDigit : Text → Bool
  | 46 :: c :: _ => isDigit c
  | _ => false

/-- unit texts that `parseNum` can produce after an *integer* literal: they do not start with a digit
and do not start with `.` digit -/
def UnitText (d : Text) : Prop := (∀ c ∈ d.head?, isDigit c = false) ∧ dotDigit d = false

theorem unitText_nil : UnitText [] := ⟨fun c hc => by simp at hc, rfl⟩

/-! ### rounding to six places is within half a unit of the sixth place -/

theorem round6_cases (q : Q) :
    (round6 q = q.num * 1000000 / q.den ∧ 2 * (q.num * 1000000 % q.den) ≤ q.den) ∨
    (round6 q = q.num * 1000000 / q.den + 1 ∧ q.den ≤ 2 * (q.num * 1000000 % q.den)) := by
  unfold round6
  simp only
  split
  next h => exact .inr ⟨rfl, Nat.le_of_lt h⟩
  next h =>
    split
    next h' => exact .inl ⟨rfl, Nat.le_of_lt h'⟩
    next h' =>
      split
      · exact .inr ⟨rfl, Nat.le_of_not_lt h'⟩
      · exact .inl ⟨rfl, Nat.le_of_not_lt h⟩

/-- `round6 q` is a nearest integer to `|q|·10^6`: twice the distance is at most the denominator -/
theorem round6_error (q : Q) (hd : 0 < q.den) :
    2 * (round6 q * q.den - q.num * 1000000) ≤ q.den ∧ 2 * (q.num * 1000000 - round6 q * q.den) ≤ q.den := by
  have hn := Nat.div_add_mod' (q.num * 1000000) q.den
  have hr := Nat.mod_lt (q.num * 1000000) hd
  rcases round6_cases q with ⟨e, h⟩ | ⟨e, h⟩ <;> rw [e]
  -- with `m` the multiple of the denominator below, `n = m + r`: the candidates are `m` and `m + d`
  · generalize q.num * 1000000 / q.den * q.den = m at hn ⊢
    rw [← hn, Nat.sub_eq_zero_of_le (Nat.le_add_right m _), Nat.add_sub_cancel_left]
    exact ⟨Nat.zero_le _, h⟩
  · rw [Nat.add_mul, Nat.one_mul]
    generalize q.num * 1000000 / q.den * q.den = m at hn ⊢
    rw [← hn, Nat.add_sub_add_left, Nat.add_sub_add_left, Nat.sub_eq_zero_of_le (Nat.le_of_lt hr)]
    exact ⟨by omega, Nat.zero_le _⟩

/-- within half a unit of the sixth decimal place of what was parsed -/
theorem fmt_reparse_error (p : Parsed) (hd : 0 < p.value.den) :
    2 * (round6 p.value * p.value.den - p.value.num * 1000000) ≤ p.value.den ∧
    2 * (p.value.num * 1000000 - round6 p.value * p.value.den) ≤ p.value.den :=
  round6_error p.value hd

theorem round6_num_zero (q : Q) (h : q.num = 0) : round6 q = 0 := by
  simp [round6, h]

/-! ### digit strings and the numbers they denote -/

theorem foldl_digits (init : Nat) (b : List Nat) :
    List.foldl (fun a d => 10 * a + (d - 48)) init b =
      init * 10 ^ b.length + List.foldl (fun a d => 10 * a + (d - 48)) 0 b := by
  induction b generalizing init with
  | nil => simp
  | cons x xs ih =>
    simp only [List.foldl_cons, List.length_cons]
    rw [ih (10 * init + (x - 48)), ih (10 * 0 + (x - 48)), Nat.mul_zero, Nat.zero_add, Nat.add_mul,
      Nat.add_assoc, Nat.pow_succ, Nat.mul_comm 10 init, Nat.mul_assoc, Nat.mul_comm 10]

theorem digitsVal_append (a b : List Nat) : digitsVal (a ++ b) = digitsVal a * 10 ^ b.length + digitsVal b := by
  unfold digitsVal
  rw [List.foldl_append, foldl_digits]

theorem digitsVal_cons (x : Nat) (l : List Nat) : digitsVal (x :: l) = (x - 48) * 10 ^ l.length + digitsVal l := by
  show digitsVal ([x] ++ l) = _
  rw [digitsVal_append]
  simp [digitsVal]

theorem digitsVal_leading_zero (fp : List Nat) : digitsVal ([48] ++ fp) = digitsVal fp := by
  show digitsVal (48 :: fp) = _
  rw [digitsVal_cons, Nat.sub_self, Nat.zero_mul, Nat.zero_add]

theorem digitsVal_zeros (a : List Nat) (k : Nat) : digitsVal (a ++ List.replicate k 48) = digitsVal a * 10 ^ k := by
  have h0 : digitsVal (List.replicate k 48) = 0 := by
    induction k with
    | zero => rfl
    | succ j ih => rw [List.replicate_succ, digitsVal_cons, ih, Nat.sub_self, Nat.zero_mul]
  rw [digitsVal_append, h0, List.length_replicate, Nat.add_zero]

theorem digit_lt (n : Nat) (h : n < 10) : isDigit (48 + n) = true := by
  simp only [isDigit, Bool.and_eq_true, decide_eq_true_eq]
  omega

theorem digit_mod (n : Nat) : isDigit (48 + n % 10) = true := digit_lt _ (Nat.mod_lt n (by decide))

theorem digit_not_sign (c : Nat) (h : isDigit c = true) : c ≠ 43 ∧ c ≠ 45 := by
  simp only [isDigit, Bool.and_eq_true, decide_eq_true_eq] at h
  omega

theorem digit_ne_point (c : Nat) (h : isDigit c = true) : c ≠ 46 := by
  simp only [isDigit, Bool.and_eq_true, decide_eq_true_eq] at h
  omega

theorem toDigitsAux_val : ∀ (fuel n : Nat) (acc : List Nat), n < fuel →
    digitsVal (toDigitsAux fuel n acc) = n * 10 ^ acc.length + digitsVal acc := by
  intro fuel
  induction fuel with
  | zero => intro n acc h; exact absurd h (Nat.not_lt_zero n)
  | succ f ih =>
    intro n acc h
    unfold toDigitsAux
    split
    · rw [digitsVal_cons, Nat.add_sub_cancel_left]
    · rw [ih (n / 10) _ (by omega), digitsVal_cons, Nat.add_sub_cancel_left, List.length_cons, Nat.pow_succ,
        ← Nat.add_assoc, Nat.mul_comm _ 10, ← Nat.mul_assoc, ← Nat.add_mul, Nat.div_add_mod']

theorem natDigits_val (n : Nat) : digitsVal (natDigits n) = n :=
  (toDigitsAux_val (n + 1) n [] (Nat.lt_succ_self n)).trans (Nat.mul_one n)

theorem toDigitsAux_digits : ∀ (fuel n : Nat) (acc : List Nat), (∀ c ∈ acc, isDigit c = true) →
    ∀ c ∈ toDigitsAux fuel n acc, isDigit c = true := by
  intro fuel
  induction fuel with
  | zero => intro n acc h; exact h
  | succ f ih =>
    intro n acc h
    unfold toDigitsAux
    split
    next hn => exact List.forall_mem_cons.mpr ⟨digit_lt n hn, h⟩
    next => exact ih _ _ (List.forall_mem_cons.mpr ⟨digit_mod n, h⟩)

theorem natDigits_digits (n : Nat) : ∀ c ∈ natDigits n, isDigit c = true :=
  toDigitsAux_digits _ _ [] (fun c hc => by cases hc)

theorem toDigitsAux_ne_nil : ∀ (fuel n : Nat) (acc : List Nat), 0 < fuel ∨ acc ≠ [] →
    toDigitsAux fuel n acc ≠ []
  | 0, _, _, h => h.resolve_left (Nat.lt_irrefl 0)
  | f + 1, n, acc, _ => by
    unfold toDigitsAux
    split
    · exact List.cons_ne_nil _ _
    · exact toDigitsAux_ne_nil f _ _ (.inr (List.cons_ne_nil _ _))

theorem natDigits_ne_nil (n : Nat) : natDigits n ≠ [] := toDigitsAux_ne_nil _ _ _ (.inl (Nat.succ_pos n))

theorem natDigits_zero : natDigits 0 = [48] := rfl

theorem pad6_val (n : Nat) (h : n < 1000000) : digitsVal (pad6 n) = n := by
  -- Horner's rule, one digit at a time
  have step (m : Nat) : 10 * (n / (m * 10)) + n / m % 10 = n / m := by
    rw [← Nat.div_div_eq_div_mul]
    exact Nat.div_add_mod _ 10
  have h5 : n / 100000 % 10 = n / 100000 := Nat.mod_eq_of_lt (Nat.div_lt_of_lt_mul h)
  simp only [pad6, digitsVal, List.foldl_cons, List.foldl_nil, h5, Nat.mul_zero, Nat.zero_add,
    Nat.add_sub_cancel_left]
  rw [step 10000, step 1000, step 100, step 10, Nat.div_add_mod]

theorem pad6_length (n : Nat) : (pad6 n).length = 6 := rfl

theorem pad6_digits (n : Nat) : ∀ c ∈ pad6 n, isDigit c = true := by
  intro c hc
  simp only [pad6, List.mem_cons, List.not_mem_nil, or_false] at hc
  rcases hc with rfl | rfl | rfl | rfl | rfl | rfl <;> exact digit_mod _

theorem digitsVal_fmt (r : Nat) : digitsVal (natDigits (r / 1000000) ++ pad6 (r % 1000000)) = r := by
  rw [digitsVal_append, natDigits_val, pad6_val _ (Nat.mod_lt _ (by decide)), pad6_length]
  exact Nat.div_add_mod' r 1000000

/-! ### reading a number text: `splitSign`, `splitNum`, `decimalValue` -/

theorem takeWhile_digits (ds rest : List Nat) (hd : ∀ c ∈ ds, isDigit c = true)
    (hr : ∀ c ∈ rest.head?, isDigit c = false) :
    (ds ++ rest).takeWhile isDigit = ds ∧ (ds ++ rest).dropWhile isDigit = rest := by
  rw [List.takeWhile_append_of_pos hd, List.dropWhile_append_of_pos hd]
  cases rest with
  | nil => exact ⟨List.append_nil _, rfl⟩
  | cons x xs =>
    have hx : ¬ isDigit x = true := by rw [hr x rfl]; exact Bool.false_ne_true
    rw [List.takeWhile_cons_of_neg hx, List.dropWhile_cons_of_neg hx]
    exact ⟨List.append_nil _, rfl⟩

theorem splitSign_none (t : Text) (h : ∀ c ∈ t.head?, c ≠ 43 ∧ c ≠ 45) : splitSign t = (none, t) := by
  unfold splitSign
  split
  · exact absurd rfl (h 43 (by simp)).1
  · exact absurd rfl (h 45 (by simp)).2
  · rfl

theorem splitSign_signText (sign : Option Nat) (hs : sign = none ∨ sign = some 43 ∨ sign = some 45)
    (body : Text) (hb : ∀ c ∈ body.head?, c ≠ 43 ∧ c ≠ 45) :
    splitSign (signText sign ++ body) = (sign, body) := by
  rcases hs with rfl | rfl | rfl
  · exact splitSign_none body hb
  · rfl
  · rfl

theorem head_not_sign (ip rest : List Nat) (hip : ∀ c ∈ ip, isDigit c = true)
    (hr : ip = [] → ∀ c ∈ rest.head?, c ≠ 43 ∧ c ≠ 45) : ∀ c ∈ (ip ++ rest).head?, c ≠ 43 ∧ c ≠ 45 := by
  cases ip with
  | nil => exact hr rfl
  | cons d ds =>
    intro c hc
    cases Option.mem_some.mp hc
    exact digit_not_sign d (hip d List.mem_cons_self)

theorem splitNum_float (sign : Option Nat) (hs : sign = none ∨ sign = some 43 ∨ sign = some 45)
    (ip fp rest : List Nat) (hip : ∀ c ∈ ip, isDigit c = true) (hfp : ∀ c ∈ fp, isDigit c = true)
    (hne : fp ≠ []) (hr : ∀ c ∈ rest.head?, isDigit c = false) :
    splitNum (signText sign ++ ip ++ 46 :: fp ++ rest) = some (sign, ip, some fp, rest) := by
  obtain ⟨hti, hdi⟩ :=
    takeWhile_digits ip (46 :: (fp ++ rest)) hip (fun c hc => by cases Option.mem_some.mp hc; rfl)
  obtain ⟨htf, hdf⟩ := takeWhile_digits fp rest hfp hr
  have hfpe : fp.isEmpty = false := by cases fp with | nil => exact absurd rfl hne | cons _ _ => rfl
  have hsplit : splitSign (signText sign ++ ip ++ 46 :: fp ++ rest) = (sign, ip ++ 46 :: (fp ++ rest)) := by
    rw [List.append_assoc, List.append_assoc]
    exact splitSign_signText sign hs _ (head_not_sign ip _ hip fun _ c hc => by cases Option.mem_some.mp hc; decide)
  unfold splitNum
  simp only [hsplit, hti, hdi, htf, hdf, hfpe, Bool.false_eq_true, if_false]

theorem splitNum_int (sign : Option Nat) (hs : sign = none ∨ sign = some 43 ∨ sign = some 45)
    (ip rest : List Nat) (hip : ∀ c ∈ ip, isDigit c = true) (hne : ip ≠ []) (hr : UnitText rest) :
    splitNum (signText sign ++ ip ++ rest) = some (sign, ip, none, rest) := by
  obtain ⟨hti, hdi⟩ := takeWhile_digits ip rest hip hr.1
  have hipe : ip.isEmpty = false := by cases ip with | nil => exact absurd rfl hne | cons _ _ => rfl
  have hsplit : splitSign (signText sign ++ ip ++ rest) = (sign, ip ++ rest) := by
    rw [List.append_assoc]
    exact splitSign_signText _ hs _ (head_not_sign ip rest hip fun h => absurd h hne)
  unfold splitNum
  simp only [hsplit, hti, hdi, hipe, Bool.false_eq_true, if_false]
  split
  · rename_i r2
    have hdd := hr.2
    cases r2 with
    | nil => simp
    | cons c cs =>
      simp only [dotDigit] at hdd
      simp [hdd]
  · rfl

theorem decimalValue_decimalText (neg : Bool) (ip fp : List Nat) (hip : ∀ c ∈ ip, isDigit c = true)
    (hfp : ∀ c ∈ fp, isDigit c = true) (hne : fp ≠ []) :
    decimalValue (decimalText neg ip fp) = some ⟨neg, digitsVal (ip ++ fp), 10 ^ fp.length⟩ := by
  have h := splitNum_float (if neg then some 45 else none) (by cases neg <;> simp) ip fp [] hip hfp hne
    (by intro c hc; cases hc)
  rw [List.append_nil, ← minus_eq] at h
  unfold decimalValue decimalText
  rw [h]
  cases neg <;> simp

theorem decimalValue_int (neg : Bool) (ip : List Nat) (hip : ∀ c ∈ ip, isDigit c = true) (hne : ip ≠ []) :
    decimalValue (minus neg ++ ip) = some ⟨neg, digitsVal ip, 1⟩ := by
  have h := splitNum_int (if neg then some 45 else none) (by cases neg <;> simp) ip [] hip hne unitText_nil
  rw [List.append_nil] at h
  unfold decimalValue
  rw [minus_eq, h]
  cases neg <;> simp

/-! ### `'%f'` and `_strip_zeros`: stripping zeros does not change the value printed -/

/-- trailing zeros are all that `rstrip('0')` removes -/
theorem strip_decomp (b : List Nat) :
    ∃ k, b = (b.reverse.dropWhile (· == 48)).reverse ++ List.replicate k 48 := by
  refine ⟨(b.reverse.takeWhile (· == 48)).length, ?_⟩
  have hz := List.eq_replicate_of_mem (a := 48) (l := b.reverse.takeWhile (· == 48))
    (fun c hc => eq_of_beq (List.all_eq_true.mp List.all_takeWhile c hc))
  rw [← List.reverse_replicate, ← hz, ← List.reverse_append, List.takeWhile_append_dropWhile,
    List.reverse_reverse]

theorem findIdx_point (pre rest : List Nat) (hl : ∀ c ∈ pre, (c == 46) = false) :
    (pre ++ 46 :: rest).findIdx? (· == 46) = some pre.length := by
  rw [List.findIdx?_append, List.findIdx?_eq_none_iff.mpr hl]
  simp [List.findIdx?_cons]

theorem stripZeros_decimalText (neg : Bool) (ip fp : List Nat) (hip : ∀ c ∈ ip, isDigit c = true) (hne : fp ≠ []) :
    ∃ fp' k, stripZeros (decimalText neg ip fp) = decimalText neg ip fp' ∧ fp' ≠ [] ∧ fp = fp' ++ List.replicate k 48 := by
  obtain ⟨f0, fs, rfl⟩ := List.exists_cons_of_ne_nil hne
  obtain ⟨k, hk⟩ := strip_decomp fs
  refine ⟨f0 :: (fs.reverse.dropWhile (· == 48)).reverse, k, ?_, List.cons_ne_nil _ _, congrArg (f0 :: ·) hk⟩
  have hpre : ∀ c ∈ minus neg ++ ip, (c == 46) = false := by
    intro c hc
    rcases List.mem_append.mp hc with h | h
    · cases neg <;> simp [minus] at h; subst h; decide
    · exact beq_false_of_ne (digit_ne_point c (hip c h))
  unfold stripZeros decimalText
  rw [findIdx_point _ _ hpre]
  simp only
  generalize minus neg ++ ip = pre
  have e : pre ++ 46 :: f0 :: fs = (pre ++ [46, f0]) ++ fs := by simp
  rw [e, List.take_left' (by simp), List.drop_left' (by simp)]
  simp

/-- the zeros removed are made up for by the shorter denominator -/
theorem digitsVal_strip (ip fp : List Nat) (k : Nat) :
    digitsVal (ip ++ fp) * 10 ^ (fp ++ List.replicate k 48).length =
      digitsVal (ip ++ (fp ++ List.replicate k 48)) * 10 ^ fp.length := by
  rw [← List.append_assoc, digitsVal_zeros, List.length_append, List.length_replicate, Nat.pow_add,
    Nat.mul_assoc, Nat.mul_comm (10 ^ k)]

theorem fmtF_decimalText (q : Q) :
    fmtF q = decimalText (q.neg && !q.isZero) (natDigits (round6 q / 1000000)) (pad6 (round6 q % 1000000)) := by
  simp [fmtF, decimalText, minus]

theorem fmtF_strip (q : Q) :
    ∃ fp, stripZeros (fmtF q) = decimalText (q.neg && !q.isZero) (natDigits (round6 q / 1000000)) fp ∧ fp ≠ [] ∧
      (∀ c ∈ fp, isDigit c = true) ∧
      digitsVal (natDigits (round6 q / 1000000) ++ fp) * 1000000 = round6 q * 10 ^ fp.length := by
  obtain ⟨fp, k, hst, hne, hk⟩ := stripZeros_decimalText (q.neg && !q.isZero) _ (pad6 (round6 q % 1000000))
    (natDigits_digits (round6 q / 1000000)) (List.cons_ne_nil _ _)
  refine ⟨fp, by rw [fmtF_decimalText, hst], hne, fun c hc => pad6_digits (round6 q % 1000000) c ?_, ?_⟩
  · rw [hk]; exact List.mem_append_left _ hc
  · have h := digitsVal_strip (natDigits (round6 q / 1000000)) fp k
    rw [← hk, digitsVal_fmt, pad6_length] at h
    exact h

/-- for `0 ≤ |x| < 1` as printed (`0.dddddd`), the surgery `v[1:]` / `v[0] + v[2:]` yields the text
`[-].ddd…` -/
theorem omit_surgery (neg : Bool) (fp : List Nat) :
    (if neg then (decimalText neg [48] fp).take 1 ++ (decimalText neg [48] fp).drop 2 else (decimalText neg [48] fp).drop 1)
      = decimalText neg [] fp := by
  cases neg <;> simp [decimalText, minus]

end CssVerif.Number
