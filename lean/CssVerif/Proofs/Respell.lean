import CssVerif.Model.Respell
import CssVerif.Proofs.Escape
namespace CssVerif.Respell
open CssVerif.Escape

/-! ### what a spelling writes for a character: the character or its upper-case form -/

theorem nameChar_cases (c : Nat) (h : isNameChar c = true) :
    (∃ u, c = u + 32 ∧ 65 ≤ u ∧ u ≤ 90 ∧ up c = u) ∨ (up c = c ∧ (48 ≤ c ∧ c ≤ 57 ∨ c = 45 ∨ c = 95)) := by
  unfold up
  cases hl : isLetter c with
  | true =>
    simp only [isLetter, Bool.and_eq_true, decide_eq_true_eq] at hl
    exact .inl ⟨c - 32, (Nat.sub_add_cancel (Nat.le_trans (by decide : 32 ≤ 97) hl.1)).symm,
      Nat.le_sub_of_add_le hl.1, Nat.sub_le_of_le_add hl.2, rfl⟩
  | false =>
    simp only [isNameChar, hl, Bool.false_or, Bool.or_eq_true, Bool.and_eq_true, decide_eq_true_eq,
      beq_iff_eq] at h
    exact .inr ⟨rfl, or_assoc.mp h⟩

/-- `w` is what a spelling writes for the name character `c`: `c` itself or its upper-case form -/
def Form (c w : Nat) : Prop := w = c ∨ w = up c

theorem Form.self (c : Nat) : Form c c := .inl rfl

theorem Form.upper (c : Nat) : Form c (up c) := .inr rfl

theorem Form.lit (c : Nat) (u : Bool) : Form c (if u = true then up c else c) := by
  cases u
  · exact .inl rfl
  · exact .inr rfl

theorem Form.facts {c w : Nat} (hw : Form c w) (h : isNameChar c = true) :
    33 ≤ w ∧ w ≤ 122 ∧ w ≠ 92 ∧ lowerC w = c := by
  unfold lowerC
  rcases nameChar_cases c h with ⟨u, rfl, h1, h2, hu⟩ | ⟨hu, hr⟩
  · rcases hw with rfl | rfl
    · rw [if_neg (by omega)]; omega
    · rw [hu, if_pos ⟨h1, h2⟩]; omega
  · rw [Form, hu, or_self] at hw
    subst hw
    rw [if_neg (by omega)]; omega

theorem Form.ge {c w : Nat} (hw : Form c w) (h : isNameChar c = true) : 33 ≤ w := (hw.facts h).1

theorem Form.le {c w : Nat} (hw : Form c w) (h : isNameChar c = true) : w ≤ 122 := (hw.facts h).2.1

theorem Form.ne_backslash {c w : Nat} (hw : Form c w) (h : isNameChar c = true) : w ≠ 92 := (hw.facts h).2.2.1

theorem Form.lower {c w : Nat} (hw : Form c w) (h : isNameChar c = true) : lowerC w = c := (hw.facts h).2.2.2

/-- a text whose first character lies above the space is clean in the sense of `okOne`: it may follow a hex
escape that has no terminator without its start being swallowed -/
theorem clean_cons (x : Nat) (t : Text) (h : 33 ≤ x) :
    startsClean (x :: t) = true ∧ (x :: t).head? ≠ some 10 := by
  have : isWs x = false ∧ x ≠ 10 := by
    simp only [isWs, Bool.or_eq_false_iff, beq_eq_false_iff_ne]
    omega
  exact ⟨by simp [startsClean, this.1], fun e => this.2 (Option.some.inj e)⟩

/-- a rendered name never starts with white space or a line feed, so the conditions `startsClean` and
"a CR terminator is not followed by LF" of `okOne` restrict only what comes after the name, never one name
character written after another -/
theorem render_head (l : List (Nat × Sp)) (h : ok l = true) :
    startsClean (render l) = true ∧ (render l).head? ≠ some 10 := by
  cases l with
  | nil => exact ⟨rfl, nofun⟩
  | cons p l =>
    obtain ⟨c, s⟩ := p
    simp only [ok, Bool.and_eq_true] at h
    cases s with
    | plain => exact clean_cons c _ ((Form.self c).ge h.1.1)
    | upper => exact clean_cons (up c) _ ((Form.upper c).ge h.1.1)
    | hex z d1 d2 t => exact clean_cons 92 _ (by decide)
    | lit u => exact clean_cons 92 _ (by decide)

/-! ### `takeHex` on the digits of a hex spelling -/

theorem takeHex_zeros (z : Nat) : ∀ (k n : Nat) (b : Text),
    takeHex (z + k) 0 n (List.replicate z 48 ++ b) = takeHex k 0 (n + z) b := by
  induction z with
  | zero => intro k n b; rw [Nat.zero_add]; rfl
  | succ z ih =>
    intro k n b
    rw [Nat.add_right_comm z 1 k]
    exact (ih k (n + 1) b).trans (congrArg (takeHex k 0 · b) (Nat.add_right_comm n 1 z))

theorem takeHex_nonhex (k acc n : Nat) (t : Text) (h : ∀ x ∈ t.head?, hexVal x = none) :
    takeHex k acc n t = (acc, n, t) := by
  cases k with
  | zero => rfl
  | succ k =>
    cases t with
    | nil => rfl
    | cons x t => simp [takeHex, h x rfl]

theorem ws_nonhex (w : Nat) (hw : isWs w = true) : hexVal w = none := by
  simp only [isWs, Bool.or_eq_true, beq_iff_eq] at hw
  rcases hw with (((h | h) | h) | h) | h <;> subst h <;> decide

theorem startsNonHex_head (t : Text) (h : startsNonHex t = true) : ∀ x ∈ t.head?, hexVal x = none := by
  cases t with
  | nil => simp
  | cons y t =>
    simp only [startsNonHex, Bool.and_eq_true, Option.isNone_iff_eq_none] at h
    simpa using h.2

theorem takeHex_hex (z d1 d2 h1 h2 : Nat) (rest : Text) (hz : z ≤ 4)
    (e1 : hexVal d1 = some h1) (e2 : hexVal d2 = some h2)
    (hstop : z = 4 ∨ ∀ x ∈ rest.head?, hexVal x = none) :
    takeHex 6 0 0 (List.replicate z 48 ++ d1 :: d2 :: rest) = (h1 * 16 + h2, z + 2, rest) := by
  obtain ⟨k, hk⟩ := Nat.exists_eq_add_of_le hz
  have e6 : 6 = z + (k + 2) := congrArg (· + 2) hk
  rw [e6, takeHex_zeros]
  simp only [takeHex, e1, e2, Nat.zero_mul, Nat.zero_add]
  -- the budget of six digits is used up, or the next character is no hex digit
  rcases hstop with rfl | h
  · cases Nat.add_left_cancel (m := 0) hk
    rfl
  · exact takeHex_nonhex _ _ _ _ h

/-! ### the white space that ends an escape -/

/-- the text after the optional white space that ends an escape -/
def afterWs : Text → Text
  | 13 :: 10 :: r => r
  | w :: r => if isWs w then r else w :: r
  | [] => []

theorem afterWs_clean (t : Text) (h : startsClean t = true) : afterWs t = t := by
  unfold afterWs
  split
  · simp [startsClean, isWs] at h
  · next w r _ =>
    have hw : isWs w = false := by simpa [startsClean] using h
    simp [hw]
  · rfl

theorem afterWs_ws (w : Nat) (t : Text) (hw : isWs w = true) (h : ¬ (w = 13 ∧ t.head? = some 10)) :
    afterWs (w :: t) = t := by
  unfold afterWs
  split
  · next r heq =>
    cases heq
    exact absurd ⟨rfl, rfl⟩ h
  · next w' r _ heq =>
    cases heq
    simp [hw]
  · next heq => cases heq

theorem unescape_hex (fuel : Nat) (s : Text) (v n : Nat) (rest : Text) (h : takeHex 6 0 0 s = (v, n, rest))
    (hn : n ≠ 0) (hv : v ≤ 0x10FFFF) : unescape (fuel + 1) (92 :: s) = v :: unescape fuel (afterWs rest) := by
  simp only [unescape, h, hn, if_false, hv, if_true]
  unfold afterWs
  split <;> simp
  split <;> simp

theorem lit_step (fuel c : Nat) (t : Text) (hh : hexVal c = none) (hc : c ≠ 92) :
    unescape (fuel + 2) (92 :: c :: t) = 92 :: c :: unescape fuel t := by
  have hth : takeHex 6 0 0 (c :: t) = (0, 0, c :: t) := by simp [takeHex, hh]
  have h2 : unescape (fuel + 1 + 1) (92 :: c :: t) = 92 :: unescape (fuel + 1) (c :: t) := by
    simp [unescape, hth]
  rw [h2, unescape_plain fuel c t hc]

/-- what `unicodesub` leaves of one spelling -/
def mid (c : Nat) : Sp → Text
  | .plain => [c]
  | .upper => [up c]
  | .hex _ d1 d2 _ => [((hexVal d1).getD 0) * 16 + (hexVal d2).getD 0]
  | .lit u => [92, if u then up c else c]

def mids : List (Nat × Sp) → Text
  | [] => []
  | (c, s) :: l => mid c s ++ mids l

theorem hex_digits (c z d1 d2 : Nat) (term : Option Nat) (t : Text) (h : okOne c t (.hex z d1 d2 term) = true) :
    ∃ h1 h2, hexVal d1 = some h1 ∧ hexVal d2 = some h2 ∧ Form c (h1 * 16 + h2) := by
  simp only [okOne, Bool.and_eq_true] at h
  have hm := h.1.2
  cases e1 : hexVal d1 with
  | none => simp [e1] at hm
  | some h1 =>
    cases e2 : hexVal d2 with
    | none => simp [e1, e2] at hm
    | some h2 =>
      simp only [e1, e2, Bool.or_eq_true, beq_iff_eq] at hm
      exact ⟨h1, h2, rfl, rfl, hm⟩

theorem hex_mid (c z d1 d2 : Nat) (term : Option Nat) (t : Text) (h : okOne c t (.hex z d1 d2 term) = true) :
    ∃ v, Form c v ∧ mid c (.hex z d1 d2 term) = [v] := by
  obtain ⟨h1, h2, e1, e2, hv⟩ := hex_digits c z d1 d2 term t h
  exact ⟨_, hv, by simp [mid, e1, e2]⟩

theorem hex_step (fuel c z d1 d2 : Nat) (term : Option Nat) (t : Text) (hc : isNameChar c = true)
    (h : okOne c t (.hex z d1 d2 term) = true) :
    unescape (fuel + 1) (write c (.hex z d1 d2 term) ++ t) = mid c (.hex z d1 d2 term) ++ unescape fuel t := by
  obtain ⟨h1, h2, e1, e2, hv⟩ := hex_digits c z d1 d2 term t h
  simp only [okOne, Bool.and_eq_true, decide_eq_true_eq] at h
  obtain ⟨⟨hz, _⟩, ht⟩ := h
  -- where the digits stop, and what the terminator leaves
  obtain ⟨hstop, hafter⟩ : (z = 4 ∨ ∀ x ∈ (term.toList ++ t).head?, hexVal x = none) ∧
      afterWs (term.toList ++ t) = t := by
    cases term with
    | none =>
      simp only [Bool.and_eq_true, Bool.or_eq_true, beq_iff_eq] at ht
      exact ⟨ht.1.imp id (startsNonHex_head t), afterWs_clean t ht.2⟩
    | some w =>
      simp only [Bool.and_eq_true, Bool.not_eq_true', Bool.and_eq_false_iff, beq_eq_false_iff_ne] at ht
      exact ⟨.inr fun x hx => by cases Option.mem_some.mp hx; exact ws_nonhex _ ht.1,
        afterWs_ws w t ht.1 fun ⟨h13, h10⟩ => ht.2.elim (· h13) (· h10)⟩
  have e : write c (.hex z d1 d2 term) ++ t =
      92 :: (List.replicate z 48 ++ d1 :: d2 :: (term.toList ++ t)) := by simp [write]
  rw [e, unescape_hex fuel _ _ _ _ (takeHex_hex z d1 d2 h1 h2 _ hz e1 e2 hstop) (Nat.succ_ne_zero _)
    (Nat.le_trans (Form.le hv hc) (by decide)), hafter]
  simp [mid, e1, e2]

/-! ### a whole name -/

theorem fuel_split (a b : Text) (fuel k : Nat) (h : (a ++ b).length < fuel) (hk : k ≤ a.length) :
    ∃ f, fuel = f + k ∧ b.length < f := by
  rw [List.length_append] at h
  have hlt : b.length + k < fuel := by omega
  exact ⟨fuel - k, (Nat.sub_add_cancel (Nat.le_of_lt (Nat.lt_of_le_of_lt (Nat.le_add_left _ _) hlt))).symm,
    Nat.lt_sub_of_add_lt hlt⟩

/-- reading the escapes of a rendered name leaves, per character: the character, its upper-case form, or a
literal escape of one of them -/
theorem unescape_render : ∀ (l : List (Nat × Sp)) (fuel : Nat), ok l = true → (render l).length < fuel →
    unescape fuel (render l) = mids l := by
  intro l
  induction l with
  | nil => intro fuel _ _; cases fuel <;> rfl
  | cons p l ih =>
    obtain ⟨c, s⟩ := p
    intro fuel h hf
    simp only [ok, Bool.and_eq_true] at h
    obtain ⟨⟨hc, ho⟩, hl⟩ := h
    cases s with
    | plain =>
      obtain ⟨f, rfl, hf'⟩ := fuel_split [c] _ fuel 1 hf (Nat.le_refl 1)
      show unescape (f + 1) (c :: render l) = c :: mids l
      rw [unescape_plain f c _ ((Form.self c).ne_backslash hc), ih f hl hf']
    | upper =>
      obtain ⟨f, rfl, hf'⟩ := fuel_split [up c] _ fuel 1 hf (Nat.le_refl 1)
      show unescape (f + 1) (up c :: render l) = up c :: mids l
      rw [unescape_plain f _ _ ((Form.upper c).ne_backslash hc), ih f hl hf']
    | hex z d1 d2 term =>
      obtain ⟨f, rfl, hf'⟩ := fuel_split (write c (.hex z d1 d2 term)) _ fuel 1 hf (Nat.succ_pos _)
      show unescape (f + 1) (write c (.hex z d1 d2 term) ++ render l) = mid c (.hex z d1 d2 term) ++ mids l
      rw [hex_step f c z d1 d2 term (render l) hc ho, ih f hl hf']
    | lit u =>
      simp only [okOne, Option.isNone_iff_eq_none] at ho
      have hne := (Form.lit c u).ne_backslash hc
      obtain ⟨f, rfl, hf'⟩ := fuel_split (write c (.lit u)) _ fuel 2 hf (Nat.le_refl 2)
      show unescape (f + 2) (92 :: (if u = true then up c else c) :: render l) = _
      rw [lit_step f _ _ ho hne, ih f hl hf']
      rfl

/-! ### `helper.normalize` on what is left -/

theorem stripLit_ne (c : Nat) (t : Text) (h : c ≠ 92) : stripLit (c :: t) = c :: stripLit t := by
  conv => lhs; unfold stripLit
  split
  · next heq => cases heq; exact absurd rfl h
  · next heq => cases heq; rfl
  · next heq => cases heq

theorem stripLit_lit (c : Nat) (t : Text) (h : hexVal c = none) : stripLit (92 :: c :: t) = c :: stripLit t := by
  simp [stripLit, h]

theorem normalize_mids : ∀ l : List (Nat × Sp), ok l = true → normalize (mids l) = l.map (·.1) := by
  intro l
  induction l with
  | nil => intro _; rfl
  | cons p l ih =>
    obtain ⟨c, s⟩ := p
    intro h
    simp only [ok, Bool.and_eq_true] at h
    obtain ⟨⟨hc, ho⟩, hl⟩ := h
    -- every spelling leaves one character `w`, `c` or `up c`, after a backslash if it is a literal escape
    have one : ∀ w, Form c w → normalize (w :: mids l) = c :: l.map (·.1) := by
      intro w hw
      simp only [normalize] at ih ⊢
      rw [stripLit_ne w _ (hw.ne_backslash hc), List.map_cons, hw.lower hc, ih hl]
    cases s with
    | plain => exact one c (Form.self c)
    | upper => exact one (up c) (Form.upper c)
    | hex z d1 d2 term =>
      obtain ⟨v, hv, hm⟩ := hex_mid c z d1 d2 term (render l) ho
      show normalize (mid c (.hex z d1 d2 term) ++ mids l) = _
      rw [hm]
      exact one v hv
    | lit u =>
      simp only [okOne, Option.isNone_iff_eq_none] at ho
      have hw := Form.lit c u
      have := one _ hw
      simp only [normalize] at this ⊢
      rw [stripLit_ne _ _ (hw.ne_backslash hc)] at this
      show List.map lowerC (stripLit (92 :: (if u = true then up c else c) :: mids l)) = _
      rw [stripLit_lit _ _ ho]
      exact this

/-- **C10, names**: every equivalent spelling of a name reads as the name -/
theorem decode_render (l : List (Nat × Sp)) (h : ok l = true) : decode (render l) = l.map (·.1) := by
  simp only [decode, cssUnescape]
  rw [unescape_render l _ h (by omega)]
  exact normalize_mids l h

end CssVerif.Respell
