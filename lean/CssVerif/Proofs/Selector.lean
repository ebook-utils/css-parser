/-
The selector state machine computes the CSS specificity of every selector of the level-3 grammar
(`Model/SelectorAst.lean`).

The machine is followed production by production.  `Adv sb st k q sp e` says where it stands after a piece of
input: context `k`, saved prefix `q`, specificity advanced by `sp`, expecting `e`.  A token is handled by the
equation of `step` for it and the closed form of `append` (`Proofs/SelectorAppend.lean`); what an `expected`
string admits is read off a table that is evaluated once per string.
-/
import CssVerif.Model.SelectorAst
import CssVerif.Proofs.SelectorAppend
namespace CssVerif.Selector

theorem Spec.add_zero (x : Spec) : x.add (0, 0, 0) = x := by simp [Spec.add]
theorem Spec.zero_add (x : Spec) : Spec.add (0, 0, 0) x = x := by simp [Spec.add]
theorem Spec.add_assoc (x y z : Spec) : (x.add y).add z = x.add (y.add z) := by simp [Spec.add, Nat.add_assoc]

theorem sumSpec_cons (x : Spec) (l : List Spec) : sumSpec (x :: l) = x.add (sumSpec l) := by
  have foldl_add : ∀ (l : List Spec) (a : Spec), l.foldl Spec.add a = a.add (l.foldl Spec.add (0, 0, 0)) := by
    intro l
    induction l with
    | nil => exact fun a => (Spec.add_zero a).symm
    | cons x l ih =>
      intro a
      rw [List.foldl_cons, List.foldl_cons, ih, ih (Spec.add _ x), Spec.zero_add, Spec.add_assoc]
  rw [sumSpec, List.foldl_cons, foldl_add, Spec.zero_add]
  rfl

theorem sumSpec_nil : sumSpec [] = (0, 0, 0) := rfl

/-- progress of the machine from `st` to `st'`: as well-formed as before, context now `k`, saved prefix `q`,
specificity advanced by `sp`, now expecting `e`, something recorded.  The last is what `finish` tests
(`items0.isEmpty`); a namespace prefix at the very start records nothing, so that step is an equation
(`step_prefix_eq`) and not an `Adv`. -/
structure Adv (st st' : St) (k : List Ctx) (q : Option Text) (sp : Spec) (e : Text) : Prop where
  ctx : st'.context = k
  wf : st'.wellformed = st.wellformed
  err : st'.firstErr = st.firstErr
  pfx : st'.pfx = q
  b : st'.b = st.b + sp.1
  c : st'.c = st.c + sp.2.1
  d : st'.d = st.d + sp.2.2
  exp : st'.expected = e
  items : st'.items ≠ []

section
variable {s1 s2 s3 st : St} {k k' : List Ctx} {q q' : Option Text} {p p' : Spec} {e e' : Text}

theorem Adv.trans (h1 : Adv s1 s2 k q p e) (h2 : Adv s2 s3 k' q' p' e') : Adv s1 s3 k' q' (p.add p') e' := by
  refine ⟨h2.ctx, h2.wf.trans h1.wf, h2.err.trans h1.err, h2.pfx, ?_, ?_, ?_, h2.exp, h2.items⟩
  · rw [h2.b, h1.b]
    simp [Spec.add, Nat.add_assoc]
  · rw [h2.c, h1.c]
    simp [Spec.add, Nat.add_assoc]
  · rw [h2.d, h1.d]
    simp [Spec.add, Nat.add_assoc]

theorem Adv.next (h1 : Adv s1 s2 k q p e) (h2 : Adv s2 s3 k' q' (0, 0, 0) e') : Adv s1 s3 k' q' p e' :=
  Spec.add_zero p ▸ h1.trans h2

theorem Adv.ret (h : Adv s1 s2 k q p e) (e' : Text) : Adv s1 (ret s2 e') k q p e' :=
  ⟨h.ctx, h.wf, h.err, h.pfx, h.b, h.c, h.d, rfl, h.items⟩

theorem Adv.frame (h : Adv s1 s2 k q p e) (f : List Ctx → List Ctx) :
    Adv s1 { s2 with context := f s2.context } (f k) q p e :=
  ⟨congrArg f h.ctx, h.wf, h.err, h.pfx, h.b, h.c, h.d, h.exp, h.items⟩

end

variable {T : Tables} {m : NsMap} {sb st : St} {c : Ctx} {k : List Ctx} {sp : Spec} {e v : Text}

theorem ctx_eq {st : St} {c : Ctx} {k : List Ctx} (h : st.context = c :: k) : ctx st = c := by
  rw [ctx, h]
  rfl

theorem adv_push_at (st : St) (c : Ctx) (k : List Ctx) (typ : IT) (val : Text) (ns : Option Ns) :
    Adv st (push { st with context := c :: k } typ val ns) (c :: k) none (weight c typ val ns.isSome) st.expected :=
  ⟨rfl, rfl, rfl, rfl, rfl, rfl, rfl, rfl, List.cons_ne_nil _ _⟩

theorem adv_push {st : St} {c : Ctx} {k : List Ctx} (hc : st.context = c :: k) (typ : IT) (val : Text)
    (ns : Option Ns) : Adv st (push st typ val ns) (c :: k) none (weight c typ val ns.isSome) st.expected := by
  have := adv_push_at st c k typ val ns
  rwa [show { st with context := c :: k } = st by rw [← hc]] at this

theorem adv_append (m : NsMap) {st : St} {c : Ctx} {k : List Ctx} (hc : st.context = c :: k) (hp : st.pfx = none)
    (v : Text) {typ : IT} (ht : typ.isSelector = false) {sp : Spec} (hw : weight c typ v false = sp) :
    Adv st (append m st v typ) (c :: k) none sp st.expected := by
  rw [append_plain hp ht, ← hw]
  exact adv_push hc typ v none

theorem Adv.append {sb st : St} {c : Ctx} {k : List Ctx} {sp : Spec} {e : Text} (h : Adv sb st (c :: k) none sp e)
    (m : NsMap) (v : Text) {typ : IT} (ht : typ.isSelector = false) (hw : weight c typ v false = (0, 0, 0)) :
    Adv sb (append m st v typ) (c :: k) none sp e :=
  h.exp ▸ h.next (adv_append m h.ctx h.pfx v ht hw)

/-- a `+` or a combinator character takes the place of a blank item recorded just before it, and is appended
otherwise; `p` is the test for such a blank -/
theorem adv_replace_or_append (h : Adv sb st (c :: k) none sp e) (m : NsMap) (v : Text) {typ : IT}
    (ht : typ.isSelector = false) (hw : weight c typ v false = (0, 0, 0)) (p : Item → Prop) [DecidablePred p]
    (e' : Text) :
    Adv sb (match st.items with
      | last :: rest =>
        if p last then ret { st with items := ⟨typ, v, none⟩ :: rest } e' else ret (append m st v typ) e'
      | [] => ret (append m st v typ) e') (c :: k) none sp e' := by
  split
  · split
    · exact h.next ⟨h.ctx, rfl, rfl, h.pfx, rfl, rfl, rfl, rfl, List.cons_ne_nil _ _⟩
    · exact (h.append m v ht hw).ret e'
  · exact (h.append m v ht hw).ret e'

/-! ### what the `expected` strings admit (substring tests, decided by evaluation) -/

abbrev AccSimple (e : Text) : Prop :=
  isInfix (str "HASH") e ∧ isInfix (str "class") e ∧ isInfix (str "attrib") e ∧ isInfix (str "pseudo") e
theorem AccSimple.hash {e : Text} (h : AccSimple e) : isInfix (str "HASH") e = true := h.1
theorem AccSimple.cls {e : Text} (h : AccSimple e) : isInfix (str "class") e = true := h.2.1
theorem AccSimple.attrib {e : Text} (h : AccSimple e) : isInfix (str "attrib") e = true := h.2.2.1
theorem AccSimple.pseudo {e : Text} (h : AccSimple e) : isInfix (str "pseudo") e = true := h.2.2.2
abbrev AccHead (e : Text) : Prop := isInfix (str "type_selector") e ∧ isInfix (str "universal") e
theorem AccHead.type {e : Text} (h : AccHead e) : isInfix (str "type_selector") e = true := h.1
theorem AccHead.universal {e : Text} (h : AccHead e) : isInfix (str "universal") e = true := h.2
abbrev AccNeg (e : Text) : Prop := isInfix (str "negation") e
abbrev AccComb (e : Text) : Prop := isInfix (str "combinator") e

/-- `expected` where a compound may start: anything but a combinator may come -/
abbrev AccStart (e : Text) : Prop := AccSimple e ∧ AccHead e ∧ AccNeg e
theorem AccStart.simple {e : Text} (h : AccStart e) : AccSimple e := h.1
theorem AccStart.head {e : Text} (h : AccStart e) : AccHead e := h.2.1
theorem AccStart.neg {e : Text} (h : AccStart e) : AccNeg e := h.2.2
/-- `expected` between the parts of a compound: anything may follow but a type or universal selector -/
abbrev AccMid (e : Text) : Prop := AccSimple e ∧ AccNeg e ∧ AccComb e
theorem AccMid.simple {e : Text} (h : AccMid e) : AccSimple e := h.1
theorem AccMid.neg {e : Text} (h : AccMid e) : AccNeg e := h.2.1
theorem AccMid.comb {e : Text} (h : AccMid e) : AccComb e := h.2.2

-- one lemma per `expected` string: evaluating the literal is the whole price of such a fact
theorem acc_sss : AccStart sss ∧ ¬ AccComb sss := by decide +kernel
theorem acc_sss_comb : AccStart (sss ++ combinator) ∧ AccMid (sss ++ combinator) := by decide +kernel
theorem acc_sss2_comb : AccMid (sss2 ++ combinator) := by decide +kernel
theorem acc_negationArg : AccSimple negationArg ∧ AccHead negationArg := by decide +kernel
theorem acc_combinator : AccComb combinator ∧ ¬ AccComb elementName := by decide +kernel

theorem acc_attname : isInfix (str "prefix") attname ∧ isInfix (str "attribute") attname := by decide +kernel
theorem acc_attname2 : isInfix (str "attribute") attname2 = true := by decide +kernel
theorem acc_attcombinator : isInfix (str "combinator") attcombinator ∧ isInfix (str "]") attcombinator := by
  decide +kernel
theorem acc_attvalue : isInfix (str "value") attvalue ∧ isInfix (str "attribute") attvalue = false := by
  decide +kernel
theorem acc_attend : isInfix (str "]") attend = true := by decide +kernel

macro "has_tac" h:ident : tactic =>
  `(tactic| (first
    | (rcases $h:ident with ⟨_, hh⟩ | ⟨_, hh⟩
       · rcases hh with hh | hh | hh <;> rw [hh] <;> decide
       · rw [hh]; decide)))

macro "hashead_tac" h:ident : tactic =>
  `(tactic| (first
    | (rcases $h:ident with ⟨_, hh⟩ | ⟨_, hh⟩
       · rcases hh with hh | hh <;> rw [hh] <;> decide
       · rw [hh]; decide)))

/-- what follows a simple selector in context `c` -/
def aft (c : Ctx) : Text := if c == .negation then negationEnd else sss2 ++ combinator
/-- what follows a functional pseudo-class, or `:not(…)`, in context `c` -/
def aftFunc (c : Ctx) : Text := if c == .negation then negationEnd else sss ++ combinator

theorem accMid_aft : AccMid (aft .root) := acc_sss2_comb
theorem accMid_aftFunc : AccMid (aftFunc .root) := acc_sss_comb.2

/-- a simple selector may start: at the root or as the argument of `:not(`, no prefix pending -/
structure Ready (st : St) (c : Ctx) (k : List Ctx) : Prop where
  ctx : st.context = c :: k
  pfx : st.pfx = none
  counted : c = .root ∨ c = .negation
  acc : AccSimple st.expected

/-- at the root and inside `:not(` items are weighed alike -/
theorem weight_counted {c : Ctx} (h : c = .root ∨ c = .negation) (typ : IT) (v : Text) (t : Bool) :
    weight c typ v t = weight .root typ v t := by
  rcases h with rfl | rfl <;> rfl

/-! ### single-token simple selectors -/

/-- the production HASH, class and universal tokens share, with `kw` the keyword it looks for -/
theorem keyword_eq {typ : IT} {kw : Text} (hk : isInfix kw st.expected = true) :
    (if isInfix kw st.expected then
      (if ctx st == .negation then ret (append m st v typ) negationEnd
       else ret (append m st v typ) (sss2 ++ combinator))
     else fail st) = ret (append m st v typ) (aft (ctx st)) := by
  rw [if_pos hk, aft]
  split <;> rfl

theorem step_hash_eq (hk : isInfix (str "HASH") st.expected = true) :
    step T m st (.hash, v) = ret (append m st v .id) (aft (ctx st)) := keyword_eq hk

theorem step_cls_eq (hk : isInfix (str "class") st.expected = true) :
    step T m st (.cls, v) = ret (append m st v .cls) (aft (ctx st)) := keyword_eq hk

theorem step_universal_eq (hk : isInfix (str "universal") st.expected = true) :
    step T m st (.universal, v) = ret (append m st v .universal) (aft (ctx st)) := keyword_eq hk

theorem step_hash (h : Ready st c k) : Adv st (step T m st (.hash, v)) (c :: k) none (1, 0, 0) (aft c) := by
  rw [step_hash_eq h.acc.hash, ctx_eq h.ctx]
  exact (adv_append m h.ctx h.pfx v rfl (weight_counted h.counted ..)).ret _

theorem step_cls (h : Ready st c k) : Adv st (step T m st (.cls, v)) (c :: k) none (0, 1, 0) (aft c) := by
  rw [step_cls_eq h.acc.cls, ctx_eq h.ctx]
  exact (adv_append m h.ctx h.pfx v rfl ((weight_counted h.counted ..).trans (by simp [weight]))).ret _

/-- the production for pseudo-class and pseudo-element tokens; `el`: the token denotes a pseudo-element -/
theorem step_pseudo_eq (tt : TT) (htt : tt = .pclass ∨ tt = .pelem) (hk : isInfix (str "pseudo") st.expected = true)
    (hn : normalize T v = v) {el : Bool} (hel : (legacyPseudoElements.contains v || tt == .pelem) = el) :
    step T m st (tt, v) =
      let s := append m st v (if el then .pelem else .pclass)
      if endsWith v (str "(") then
        ret { s with context := (if el then Ctx.pelem else Ctx.pclass) :: s.context } expressionStart
      else if ctx st == .negation then ret s negationEnd
      else if el then ret s combinator
      else ret s (sss2 ++ combinator) := by
  subst hel
  rcases htt with rfl | rfl <;> simp only [step, hk, hn, if_true]

theorem weight_pclass (hc : c = .root ∨ c = .negation) (v : Text) :
    weight c .pclass v false = if v == str ":where(" then (0, 0, 0) else (0, 1, 0) := by
  rw [weight_counted hc]
  cases h : v == str ":where(" <;> simp [weight, bne, h]

theorem step_pclass (h : Ready st c k) (hn : normalize T v = v) (hf : endsWith v (str "(") = false)
    (hl : legacyPseudoElements.contains v = false) :
    Adv st (step T m st (.pclass, v)) (c :: k) none (0, 1, 0) (aft c) := by
  have hw : (v == str ":where(") = false := by
    cases hb : v == str ":where(" with
    | false => rfl
    | true =>
      rw [eq_of_beq hb] at hf
      exact absurd hf (by decide)
  rw [step_pseudo_eq .pclass (.inl rfl) h.acc.pseudo hn (el := false) (by rw [hl]; rfl)]
  simp only [hf, Bool.false_eq_true, if_false, ctx_eq h.ctx, ← apply_ite (ret _)]
  exact (adv_append m h.ctx h.pfx v rfl ((weight_pclass h.counted v).trans (by rw [hw]; rfl))).ret _

/-- the token that opens a functional pseudo-class; `:where(` counts nothing -/
theorem step_pfunc_open (h : Ready st c k) (hn : normalize T v = v) (hf : endsWith v (str "(") = true)
    (hl : legacyPseudoElements.contains v = false) :
    Adv st (step T m st (.pclass, v)) (.pclass :: c :: k) none (if v == str ":where(" then (0, 0, 0) else (0, 1, 0))
      expressionStart := by
  rw [step_pseudo_eq .pclass (.inl rfl) h.acc.pseudo hn (el := false) (by rw [hl]; rfl)]
  simp only [hf, if_true]
  exact ((adv_append m h.ctx h.pfx v rfl (weight_pclass h.counted v)).frame (Ctx.pclass :: ·)).ret _

/-- a pseudo-element at the root: a `::x` token, or one of the four legacy names as a pseudo-class token -/
theorem step_pelem (tt : TT) (htt : tt = .pclass ∨ tt = .pelem) (h : Ready st .root k) (hn : normalize T v = v)
    (hel : (legacyPseudoElements.contains v || tt == .pelem) = true) (hf : endsWith v (str "(") = false)
    (hb : v ≠ str "[") :
    Adv st (step T m st (tt, v)) (.root :: k) none (0, 0, 1) combinator := by
  rw [step_pseudo_eq tt htt h.acc.pseudo hn hel]
  simp only [hf, Bool.false_eq_true, if_false, if_true, ctx_eq h.ctx, show (Ctx.root == Ctx.negation) = false from rfl]
  exact (adv_append m h.ctx h.pfx v rfl (by simp [weight, hb])).ret _

/-! ### namespace prefixes, type and universal selectors -/

/-- the prefix is usable: `*`, empty, or declared -/
def PfxOK (m : NsMap) : Pfx → Prop
  | .none => True
  | .any => True
  | .empty => True
  | .named p => p ≠ str "*" ∧ p ≠ [] ∧ (nsGet m p).isSome ∧ ¬ (p.contains 124)

theorem take_append_bar (p : Text) : (p ++ str "|").take ((p ++ str "|").length - 1) = p := by
  simp [str]

/-- the prefix as `savePrefix` stores it -/
def Pfx.saved : Pfx → Option Text
  | .none => Option.none
  | .any => some (str "*")
  | .empty => some []
  | .named p => some p

theorem Pfx.toks_saved (p : Pfx) :
    p.toks = match p.saved with | .none => [] | some q => [(.nsprefix, q ++ str "|")] := by
  cases p <;> first | rfl | decide

theorem Pfx.text_saved (p : Pfx) : p.text = match p.saved with | .none => [] | some q => q ++ str "|" := by
  cases p <;> first | rfl | decide

theorem PfxOK.resolves {m : NsMap} {p : Pfx} (h : PfxOK m p) : ∃ ns, resolveO m p.saved = some ns := by
  cases p with
  | none => exact ⟨_, rfl⟩
  | any => exact ⟨.any, rfl⟩
  | empty => exact ⟨.empty, rfl⟩
  | named p =>
    obtain ⟨h1, h2, h3, _⟩ := h
    obtain ⟨u, hu⟩ := Option.isSome_iff_exists.mp h3
    exact ⟨.uri u, by simp [Pfx.saved, resolveO, h1, h2, hu]⟩

theorem PfxOK.nobar {m : NsMap} {p : Pfx} (h : PfxOK m p) {q : Text} (hq : p.saved = some q) :
    q.contains 124 = false := by
  cases p <;> cases hq
  · decide
  · rfl
  · simpa using h.2.2.2

theorem step_prefix_eq (h : Ready st c k) (hh : isInfix (str "type_selector") st.expected = true) (p : Text) :
    step T m st (.nsprefix, p ++ str "|") = { st with pfx := some p, expected := elementName } := by
  have hc : (ctx st == .attrib) = false := by rw [ctx_eq h.ctx]; rcases h.counted with rfl | rfl <;> rfl
  simp only [step, hc, hh, savePrefix, take_append_bar, ret, Bool.false_and, Bool.false_eq_true, if_false, if_true]

/-- the name of a type selector; `q` is the prefix saved just before -/
theorem step_name (hc : st.context = c :: k) (hcc : c = .root ∨ c = .negation) {q : Option Text} (hq : st.pfx = q)
    (he : isInfix (str "type_selector") st.expected = true ∨ st.expected = elementName) {ns : Ns}
    (hr : resolveO m q = some ns) (name : Text) :
    Adv st (step T m st (.ident, name)) (c :: k) none (0, 0, 1) (aft c) := by
  have hcond : (isInfix (str "type_selector") st.expected || st.expected == elementName) = true := by
    rcases he with h | h <;> simp [h]
  obtain ⟨typ, ht, hs⟩ : ∃ typ, (typ = .typesel ∨ typ = .negtypesel) ∧
      step T m st (.ident, name) = ret (append m st name typ) (aft c) := by
    rcases hcc with rfl | rfl
    · exact ⟨.typesel, .inl rfl, by simp [step, ctx, hc, hcond, Ctx.isPseudo, aft]⟩
    · exact ⟨.negtypesel, .inr rfl, by simp [step, ctx, hc, aft]⟩
  have hn : nsFor m typ q = some (some ns) := by
    rw [nsFor_selector m q (by rcases ht with rfl | rfl <;> rfl) (by rcases ht with rfl | rfl <;> nofun), hr]
    rfl
  have hw : weight c typ name true = (0, 0, 1) := by
    rcases ht with rfl | rfl <;> rcases hcc with rfl | rfl <;> rfl
  rw [hs, append_ok hq (by rcases ht with rfl | rfl <;> exact fun _ hu => nomatch hu) hn]
  exact hw ▸ (adv_push hc typ name (some ns)).ret _

theorem run_type (h : Ready st c k) (hh : isInfix (str "type_selector") st.expected = true) (p : Pfx)
    (hp : PfxOK m p) (name : Text) :
    Adv st (runFrom T m st (p.toks ++ [(.ident, name)])) (c :: k) none (0, 0, 1) (aft c) := by
  obtain ⟨ns, hr⟩ := hp.resolves
  rw [p.toks_saved]
  generalize p.saved = q at hr
  cases q with
  | none => exact step_name (T := T) h.ctx h.counted h.pfx (.inl hh) hr name
  | some q =>
    rw [List.singleton_append, runFrom_cons, runFrom_cons, runFrom_nil, step_prefix_eq h hh]
    have h2 := step_name (T := T) (st := { st with pfx := some q, expected := elementName }) h.ctx h.counted rfl
      (.inr rfl) hr name
    exact ⟨h2.ctx, h2.wf, h2.err, h2.pfx, h2.b, h2.c, h2.d, h2.exp, h2.items⟩

/-- a universal selector's value `p|*` is split by `append` into prefix and name -/
theorem append_universal (hq : st.pfx = none) (p : Pfx) {ns : Ns} (hr : resolveO m p.saved = some ns)
    (hbar : ∀ q, p.saved = some q → q.contains 124 = false) :
    append m st (p.text ++ str "*") .universal = push st .universal (str "*") (some ns) := by
  have hn : ∀ q, resolveO m q = some ns → nsFor m .universal q = some (some ns) :=
    fun q h => (nsFor_selector (typ := .universal) m q rfl (by decide)).trans (congrArg _ h)
  rw [p.text_saved]
  generalize p.saved = q at hr hbar
  cases q with
  | none => exact append_ok hq (fun _ _ => by decide) (hn _ hr)
  | some q =>
    rw [show q ++ str "|" ++ str "*" = q ++ 124 :: str "*" by rw [List.append_assoc]; rfl,
      append_bar m st q _ hq (hbar q rfl), append_ok rfl (fun _ _ => by decide) (hn _ hr)]
    rfl

theorem step_universal (h : Ready st c k) (hh : isInfix (str "universal") st.expected = true) (p : Pfx)
    (hp : PfxOK m p) :
    Adv st (step T m st (.universal, p.text ++ str "*")) (c :: k) none (0, 0, 0) (aft c) := by
  obtain ⟨ns, hr⟩ := hp.resolves
  rw [step_universal_eq hh, ctx_eq h.ctx, append_universal h.pfx p hr fun _ => hp.nobar]
  rcases h.counted with rfl | rfl <;> exact (adv_push h.ctx .universal (str "*") (some ns)).ret _

/-! ### functional pseudo-classes -/

theorem step_arg (a : ArgTok) (h : Adv sb st (.pclass :: k) none sp e) :
    Adv sb (step T m st a.tok) (.pclass :: k) none sp (if a.nonWs then expression else e) := by
  have hc := ctx_eq h.ctx
  cases a with
  | ident v | number v | dimension v | string v =>
    simp only [ArgTok.tok, ArgTok.nonWs, step, hc, Ctx.isPseudo, if_true]
    exact (h.append m _ rfl rfl).ret expression
  | plus =>
    -- `+decide` settles the comparisons of `stepChar` between one-character literals
    simp +decide [ArgTok.tok, step, stepChar, hc, Ctx.isPseudo]
    apply adv_replace_or_append h m
    · rfl
    · rfl
  | minus =>
    simp +decide [ArgTok.tok, step, stepChar, hc, Ctx.isPseudo]
    split <;> exact (h.append m _ rfl rfl).ret _
  | ws =>
    simp +decide [ArgTok.tok, step, hc, Ctx.isPseudo]
    split
    · split
      · exact h.append m (str " ") (typ := .s) rfl rfl
      · exact h
    · exact h

theorem run_args (args : List ArgTok) (h : Adv sb st (.pclass :: k) none sp expression) :
    Adv sb (runFrom T m st (args.map ArgTok.tok)) (.pclass :: k) none sp expression := by
  induction args generalizing st with
  | nil => exact h
  | cons a as ih =>
    apply ih
    have := step_arg (T := T) (m := m) a h
    rwa [ite_self] at this

theorem step_rpar_pfunc (hcc : c = .root ∨ c = .negation) (h : Adv sb st (.pclass :: c :: k) none sp expression) :
    Adv sb (step T m st (.char, str ")")) (c :: k) none sp (aftFunc c) := by
  have := ((h.append m (str ")") (typ := .funcend) rfl rfl).frame (·.drop 1)).ret (aftFunc c)
  rcases hcc with rfl | rfl <;>
    simpa +decide [step, stepChar, ctx, h.ctx, h.exp, Ctx.isPseudo, aftFunc, append_plain h.pfx (typ := .funcend) rfl,
      push] using this

theorem run_pfunc (h : Ready st c k)
    (hn : normalize T v = v) (hf : endsWith v (str "(") = true) (hl : legacyPseudoElements.contains v = false)
    {a : ArgTok} (ha : a.nonWs = true) (args : List ArgTok) :
    Adv st (runFrom T m st ((Simple.pfunc v a args).toks)) (c :: k) none (Simple.pfunc v a args).spec (aftFunc c) := by
  have h1 := step_arg (T := T) (m := m) a (step_pfunc_open (T := T) (m := m) h hn hf hl)
  rw [ha, if_pos rfl] at h1
  simp only [Simple.toks, List.cons_append, List.nil_append, runFrom_cons, runFrom_append, runFrom_nil]
  exact step_rpar_pfunc h.counted (run_args args h1)

/-! ### attribute selectors -/

/-- the prefix of an attribute selector is usable -/
def AttrPfxOK (m : NsMap) : Option Text → Prop
  | none => True
  | some p => p = [] ∨ p = str "*" ∨ (nsGet m p).isSome

theorem AttrPfxOK.resolves {m : NsMap} {q : Option Text} (h : AttrPfxOK m q) :
    ∃ ns, nsFor m .attrsel q = some ns := by
  cases q with
  | none => exact ⟨none, rfl⟩
  | some p =>
    by_cases h0 : p = []
    · exact ⟨none, by rw [h0]; rfl⟩
    · rw [nsFor_attrsel m h0, resolveO]
      by_cases hs : p = str "*"
      · exact ⟨some .any, by simp [hs]⟩
      · obtain ⟨u, hu⟩ := Option.isSome_iff_exists.mp ((h.resolve_left h0).resolve_left hs)
        exact ⟨some (.uri u), by simp [h0, hs, hu]⟩

theorem step_attr_open (h : Ready st c k) :
    Adv st (step T m st (.char, str "[")) (.attrib :: c :: k) none (0, 1, 0) attname := by
  have := ((adv_append m h.ctx h.pfx (str "[") (typ := .attrstart) (sp := (0, 1, 0)) rfl
    ((weight_counted h.counted ..).trans (by decide))).frame (Ctx.attrib :: ·)).ret attname
  have hc : ¬ (ctx st).isPseudo = true := by rw [ctx_eq h.ctx]; rcases h.counted with rfl | rfl <;> decide
  simpa +decide [step, stepChar, h.acc.attrib, hc] using this

theorem step_attr_prefix (p : Text) (h : Adv sb st (.attrib :: k) none sp attname) :
    Adv sb (step T m st (.nsprefix, p ++ str "|")) (.attrib :: k) (some p) sp attname2 := by
  have : Adv sb { st with pfx := some p, expected := attname2 } (.attrib :: k) (some p) sp attname2 :=
    ⟨h.ctx, h.wf, h.err, rfl, h.b, h.c, h.d, rfl, h.items⟩
  simpa only [step, ctx_eq h.ctx, h.exp, acc_attname.1, savePrefix, ret, take_append_bar, beq_self_eq_true,
    Bool.and_self, if_true] using this

theorem step_attr_name (name : Text) {q : Option Text} (hq : AttrPfxOK m q) (h : Adv sb st (.attrib :: k) q sp e)
    (he : isInfix (str "attribute") e = true) :
    Adv sb (step T m st (.ident, name)) (.attrib :: k) none sp attcombinator := by
  obtain ⟨ns, hn⟩ := hq.resolves
  have hs : step T m st (.ident, name) = ret (append m st name .attrsel) attcombinator := by
    simp [step, ctx_eq h.ctx, h.exp, he]
  rw [hs, append_ok h.pfx (by intro _ hu; cases hu) hn]
  exact h.next ((adv_push h.ctx .attrsel name ns).ret attcombinator)

theorem step_attr_op (op : AttrOp) (h : Adv sb st (.attrib :: k) none sp attcombinator) :
    Adv sb (step T m st op.tok) (.attrib :: k) none sp attvalue := by
  cases op <;>
    simpa +decide [AttrOp.tok, step, stepChar, ctx_eq h.ctx, h.exp, acc_attcombinator.1, matchItem] using
      (h.append m _ rfl rfl).ret attvalue

theorem step_attr_val (v : AttrVal) (h : Adv sb st (.attrib :: k) none sp attvalue) :
    Adv sb (step T m st v.tok) (.attrib :: k) none sp attend := by
  cases v <;>
    simpa [AttrVal.tok, step, ctx_eq h.ctx, h.exp, acc_attvalue.1, acc_attvalue.2] using
      (h.append m _ rfl rfl).ret attend

theorem step_attr_close (hcc : c = .root ∨ c = .negation) (h : Adv sb st (.attrib :: c :: k) none sp e)
    (he : isInfix (str "]") e = true) :
    Adv sb (step T m st (.char, str "]")) (c :: k) none sp (aft c) := by
  have := ((h.append m (str "]") (typ := .attrend) rfl rfl).frame (·.drop 1)).ret (aft c)
  rcases hcc with rfl | rfl <;>
    simpa [step, stepChar, ctx, h.ctx, h.exp, he, aft, append_plain h.pfx (typ := .attrend) rfl, push] using this

theorem run_attrib (h : Ready st c k) (p : Option Text)
    (hp : AttrPfxOK m p) (name : Text) (rhs : Option (AttrOp × AttrVal)) :
    Adv st (runFrom T m st ((Simple.attrib p name rhs).toks)) (c :: k) none (0, 1, 0) (aft c) := by
  have h1 := step_attr_open (T := T) (m := m) h
  have h2 : Adv st (runFrom T m st ([(.char, str "[")] ++
      (match p with | some p => [(.nsprefix, p ++ str "|")] | none => []) ++ [(.ident, name)]))
      (.attrib :: c :: k) none (0, 1, 0) attcombinator := by
    cases p with
    | none => exact step_attr_name (T := T) name hp h1 acc_attname.2
    | some q => exact step_attr_name (T := T) name hp (step_attr_prefix q h1) acc_attname2
  simp only [Simple.toks, runFrom_append] at h2 ⊢
  generalize runFrom T m (runFrom T m _ _) [(TT.ident, name)] = s2 at h2
  cases rhs with
  | none => exact step_attr_close (T := T) h.counted h2 acc_attcombinator.2
  | some ov => exact step_attr_close (T := T) h.counted (step_attr_val ov.2 (step_attr_op ov.1 h2)) acc_attend

/-! ### any simple selector, the argument of `:not()`, negation -/

def Simple.WF (T : Tables) (m : NsMap) : Simple → Prop
  | .id _ => True
  | .cls _ => True
  | .attrib p _ _ => AttrPfxOK m p
  | .pclass v => normalize T v = v ∧ endsWith v (str "(") = false ∧ legacyPseudoElements.contains v = false
  | .pfunc v a _ => normalize T v = v ∧ endsWith v (str "(") = true ∧ legacyPseudoElements.contains v = false ∧
      a.nonWs = true

theorem run_simple (h : Ready st c k) (s : Simple) (hw : s.WF T m) :
    ∃ e, Adv st (runFrom T m st s.toks) (c :: k) none s.spec e ∧ (e = aft c ∨ e = aftFunc c) := by
  cases s with
  | id v => exact ⟨_, step_hash (T := T) h, .inl rfl⟩
  | cls v => exact ⟨_, step_cls (T := T) h, .inl rfl⟩
  | attrib p name rhs => exact ⟨_, run_attrib h p hw name rhs, .inl rfl⟩
  | pclass v =>
    obtain ⟨hn, hf, hl⟩ := hw
    exact ⟨_, step_pclass h hn hf hl, .inl rfl⟩
  | pfunc v a args =>
    obtain ⟨hn, hf, hl, ha⟩ := hw
    exact ⟨_, run_pfunc h hn hf hl ha args, .inr rfl⟩

def NegArg.WF (T : Tables) (m : NsMap) : NegArg → Prop
  | .type p _ => PfxOK m p
  | .universal p => PfxOK m p
  | .simple s => s.WF T m

theorem run_negarg (h : Ready st .negation k)
    (hh : AccHead st.expected) (a : NegArg) (hw : a.WF T m) :
    Adv st (runFrom T m st a.toks) (.negation :: k) none a.spec negationEnd := by
  cases a with
  | type p name => exact run_type h hh.type p hw name
  | universal p => exact step_universal (T := T) h hh.universal p hw
  | simple s =>
    obtain ⟨e, hadv, rfl | rfl⟩ := run_simple h s hw <;> exact hadv

def Part.WF (T : Tables) (m : NsMap) : Part → Prop
  | .simple s => s.WF T m
  | .neg a => a.WF T m

/-- the table normalises `:not(` to itself (decided on the regenerated tables) -/
def NotNorm (T : Tables) : Prop := normalize T (str ":not(") = str ":not("

theorem run_neg (hnn : NotNorm T) (h : Ready st .root k) (hneg : AccNeg st.expected) (a : NegArg) (hw : a.WF T m) :
    Adv st (runFrom T m st (Part.neg a).toks) (.root :: k) none a.spec (aftFunc .root) := by
  let s1 : St := ret (push { st with context := .negation :: .root :: k } .negstart (str ":not(") none) negationArg
  have hopen : step T m st (.negation, str ":not(") = s1 := by
    have hnn : normalize T (str ":not(") = str ":not(" := hnn
    have hn : nsFor m .negstart none = some none := rfl
    simp only [step, hneg, hnn, if_true, h.ctx, s1]
    rw [append_ok (st := { st with context := .negation :: .root :: k }) h.pfx (by intro _ hu; cases hu) hn]
  have h1 : Adv st s1 (.negation :: .root :: k) none _ negationArg :=
    (adv_push_at st .negation (.root :: k) .negstart (str ":not(") none).ret negationArg
  rw [show weight .negation .negstart (str ":not(") (none : Option Ns).isSome = (0, 0, 0) by decide] at h1
  have h2 := h1.trans (run_negarg (T := T) (m := m) ⟨h1.ctx, h1.pfx, .inr rfl, h1.exp ▸ acc_negationArg.1⟩
    (h1.exp ▸ acc_negationArg.2) a hw)
  rw [Spec.zero_add] at h2
  simp only [Part.toks, List.cons_append, List.nil_append, runFrom_cons, runFrom_append, runFrom_nil, hopen]
  generalize runFrom T m s1 a.toks = s2 at h2
  have := ((h2.append m (str ")") (typ := .negend) rfl (by decide)).frame (·.drop 1)).ret (aftFunc .root)
  simpa +decide [step, stepChar, ctx, h2.ctx, h2.exp, negationEnd, aftFunc] using this

theorem run_part (hnn : NotNorm T) (h : Ready st .root k) (hneg : AccNeg st.expected) (p : Part) (hw : p.WF T m) :
    ∃ e, Adv st (runFrom T m st p.toks) (.root :: k) none p.spec e ∧ AccMid e := by
  cases p with
  | simple s =>
    obtain ⟨e, hadv, he⟩ := run_simple h s hw
    exact ⟨e, hadv, he.elim (· ▸ accMid_aft) (· ▸ accMid_aftFunc)⟩
  | neg a => exact ⟨_, run_neg hnn h hneg a hw, accMid_aftFunc⟩

/-! ### sequences of parts, compounds, combinators, selectors -/

def Head.WF (m : NsMap) : Head → Prop
  | .type p _ => PfxOK m p
  | .universal p => PfxOK m p

def PElem.WF (T : Tables) : PElem → Prop
  | .dbl v => normalize T v = v ∧ endsWith v (str "(") = false ∧ v ≠ str "["
  | .legacy v => normalize T v = v ∧ legacyPseudoElements.contains v = true

structure Compound.WF (T : Tables) (m : NsMap) (c : Compound) : Prop where
  head : ∀ h, c.head = some h → h.WF m
  parts : ∀ p ∈ c.parts, p.WF T m
  pelem : ∀ e, c.pelem = some e → e.WF T
  nonempty : c.head.isSome ∨ c.parts ≠ [] ∨ c.pelem.isSome

theorem Adv.ready (h : Adv sb st (.root :: k) none sp e) (he : AccSimple e) : Ready st .root k :=
  ⟨h.ctx, h.pfx, .inl rfl, h.exp ▸ he⟩

theorem run_parts (hnn : NotNorm T) (l : List Part) (hw : ∀ p ∈ l, p.WF T m)
    (h : Adv sb st (.root :: k) none sp e) (he : AccMid e) :
    ∃ e', Adv sb (runFrom T m st (l.flatMap Part.toks)) (.root :: k) none (sp.add (sumSpec (l.map Part.spec))) e' ∧
      AccMid e' := by
  induction l generalizing st sp e with
  | nil => exact ⟨e, by rwa [List.map_nil, sumSpec_nil, Spec.add_zero], he⟩
  | cons p l ih =>
    obtain ⟨e1, h1, he1⟩ := run_part hnn (h.ready he.simple) (h.exp ▸ he.neg) p (hw p (List.mem_cons_self ..))
    rw [List.flatMap_cons, runFrom_append, List.map_cons, sumSpec_cons, ← Spec.add_assoc]
    exact ih (fun q hq => hw q (List.mem_cons_of_mem _ hq)) (h.trans h1) he1

theorem run_pelem (hr : Ready st .root k) (pe : PElem) (hw : pe.WF T) :
    Adv st (runFrom T m st pe.toks) (.root :: k) none (0, 0, 1) combinator := by
  cases pe with
  | dbl v => exact step_pelem .pelem (.inr rfl) hr hw.1 (by simp) hw.2.1 hw.2.2
  | legacy v =>
    have plain : ∀ x ∈ legacyPseudoElements, endsWith x (str "(") = false ∧ x ≠ str "[" := by decide +kernel
    obtain ⟨hf, hb⟩ := plain v (by simpa using hw.2)
    exact step_pelem .pclass (.inl rfl) hr hw.1 (by rw [hw.2]; rfl) hf hb

theorem run_head (hr : Ready st .root k) (hh : AccHead st.expected) (x : Head) (hw : x.WF m) :
    Adv st (runFrom T m st x.toks) (.root :: k) none x.spec (aft .root) := by
  cases x with
  | type p name => exact run_type hr hh.type p hw name
  | universal p => exact step_universal (T := T) hr hh.universal p hw

theorem run_compound (hnn : NotNorm T) (hr : Ready st .root k) (hs : AccStart st.expected) (c : Compound)
    (hw : c.WF T m) : ∃ e, Adv st (runFrom T m st c.toks) (.root :: k) none c.spec e ∧ AccComb e := by
  obtain ⟨ch, cl, ce⟩ := c
  obtain ⟨w1, w2, w3, w4⟩ := hw
  simp only [Compound.toks, Compound.spec, runFrom_append]
  have pelem : ∀ {s : St} {sp : Spec} {e1 : Text}, Adv st s (.root :: k) none sp e1 → AccMid e1 →
      ∃ e, Adv st (runFrom T m s ((ce.map PElem.toks).getD [])) (.root :: k) none
        (sp.add (if ce.isSome then (0, 0, 1) else (0, 0, 0))) e ∧ AccComb e := by
    intro s sp e1 h1 he1
    cases ce with
    | none => exact ⟨e1, (Spec.add_zero sp).symm ▸ h1, he1.comb⟩
    | some pe => exact ⟨_, h1.trans (run_pelem (h1.ready he1.simple) pe (w3 pe rfl)), acc_combinator.1⟩
  cases ch with
  | some x =>
    obtain ⟨e1, h1, he1⟩ := run_parts hnn cl w2 (run_head hr hs.head x (w1 x rfl)) accMid_aft
    exact pelem h1 he1
  | none =>
    cases cl with
    | cons p l =>
      obtain ⟨e1, h1, he1⟩ := run_part hnn hr hs.neg p (w2 p (List.mem_cons_self ..))
      obtain ⟨e2, h2, he2⟩ := run_parts hnn l (fun q hq => w2 q (List.mem_cons_of_mem _ hq)) h1 he1
      rw [List.flatMap_cons, runFrom_append, List.map_cons, sumSpec_cons]
      simpa only [Option.map_none, Option.getD_none, Spec.zero_add, runFrom_nil] using pelem h2 he2
    | nil =>
      cases ce with
      | none => simp at w4
      | some pe =>
        refine ⟨_, ?_, acc_combinator.1⟩
        simpa [sumSpec_nil, Spec.zero_add, runFrom_nil] using run_pelem (T := T) (m := m) hr pe (w3 pe rfl)

theorem step_descendant (h : Adv sb st (.root :: k) none sp e) (he : AccComb e) :
    Adv sb (step T m st (.s, str " ")) (.root :: k) none sp (sss ++ combinator) := by
  have := (h.append m (str " ") (typ := .descendant) rfl (by decide)).ret (sss ++ combinator)
  simpa [step, ctx_eq h.ctx, Ctx.isPseudo, h.exp, he] using this

theorem step_combchar {v : Text} (hv : v = str ">" ∨ v = str "+" ∨ v = str "~")
    (h : Adv sb st (.root :: k) none sp e) (he : AccComb e) :
    Adv sb (step T m st (.char, v)) (.root :: k) none sp sss := by
  have hcomb : isInfix (str "combinator") st.expected = true := h.exp ▸ he
  rcases hv with rfl | rfl | rfl <;>
  · simp +decide [step, stepChar, ctx_eq h.ctx, Ctx.isPseudo, hcomb]
    apply adv_replace_or_append h m
    · rfl
    · decide

theorem step_ws_after (hc : st.context = .root :: k) (he : st.expected = sss) : step T m st (.s, str " ") = st := by
  simp [step, ctx_eq hc, Ctx.isPseudo, he, show isInfix (str "combinator") sss = false from by simpa using acc_sss.2]

theorem run_explicit (l : Layout) {v : Text} (hv : v = str ">" ∨ v = str "+" ∨ v = str "~")
    (h : Adv sb st (.root :: k) none sp e) (he : AccComb e) :
    Adv sb (runFrom T m st ((if l.before then [(.s, str " ")] else []) ++ [(.char, v)] ++
      (if l.after then [(.s, str " ")] else []))) (.root :: k) none sp sss := by
  rw [runFrom_append, runFrom_append]
  have h1 : ∃ e1, Adv sb (runFrom T m st (if l.before then [(.s, str " ")] else [])) (.root :: k) none sp e1 ∧
      AccComb e1 := by
    cases l.before with
    | false => exact ⟨e, h, he⟩
    | true => exact ⟨_, step_descendant (T := T) h he, acc_sss_comb.2.comb⟩
  obtain ⟨e1, h1, he1⟩ := h1
  have h2 := step_combchar (T := T) (m := m) hv h1 he1
  cases l.after with
  | false => exact h2
  | true =>
    rw [if_pos rfl, runFrom_cons, runFrom_nil, runFrom_cons, runFrom_nil, step_ws_after h2.ctx h2.exp]
    exact h2

theorem run_comb (cb : Comb) (l : Layout) (h : Adv sb st (.root :: k) none sp e) (he : AccComb e) :
    ∃ e', Adv sb (runFrom T m st (cb.toks l)) (.root :: k) none sp e' ∧ AccStart e' := by
  cases cb with
  | descendant => exact ⟨_, step_descendant (T := T) h he, acc_sss_comb.1⟩
  | child => exact ⟨_, run_explicit l (.inl rfl) h he, acc_sss.1⟩
  | adjacent => exact ⟨_, run_explicit l (.inr (.inl rfl)) h he, acc_sss.1⟩
  | following => exact ⟨_, run_explicit l (.inr (.inr rfl)) h he, acc_sss.1⟩

def Sel.WF (T : Tables) (m : NsMap) (σ : Sel) : Prop :=
  σ.first.WF T m ∧ ∀ x ∈ σ.rest, x.2.2.WF T m

theorem run_rest (hnn : NotNorm T) (l : List (Comb × Layout × Compound)) (hw : ∀ x ∈ l, x.2.2.WF T m)
    (h : Adv sb st (.root :: k) none sp e) (he : AccComb e) :
    ∃ e', Adv sb (runFrom T m st (l.flatMap (fun x => x.1.toks x.2.1 ++ x.2.2.toks))) (.root :: k) none
      (sp.add (sumSpec (l.map (fun x => x.2.2.spec)))) e' ∧ AccComb e' := by
  induction l generalizing st sp e with
  | nil => exact ⟨e, by rwa [List.map_nil, sumSpec_nil, Spec.add_zero], he⟩
  | cons x l ih =>
    obtain ⟨e1, h1, he1⟩ := run_comb (T := T) (m := m) x.1 x.2.1 h he
    obtain ⟨e2, h2, he2⟩ :=
      run_compound hnn (h1.ready he1.simple) (h1.exp ▸ he1) x.2.2 (hw x (List.mem_cons_self ..))
    rw [List.flatMap_cons, runFrom_append, runFrom_append, List.map_cons, sumSpec_cons, ← Spec.add_assoc]
    exact ih (fun y hy => hw y (List.mem_cons_of_mem _ hy)) (h1.trans h2) he2

/-- **Specificity of every well-formed selector.**  Running the selector state machine over the token
stream of any selector `σ` of the level-3 grammar ends well-formed, with no error logged, and with exactly
the specificity the CSS definition gives `σ`. -/
theorem run_sel (T : Tables) (m : NsMap) (hnn : NotNorm T) (σ : Sel) (hw : σ.WF T m) :
    (finish (run T m σ.toks)).wellformed = true ∧ (finish (run T m σ.toks)).firstErr = "" ∧
      (finish (run T m σ.toks)).spec = σ.spec := by
  have he : init.expected = sss := by rw [init]
  have hinit : Ready init .root [] := ⟨rfl, rfl, .inl rfl, he ▸ acc_sss.1.simple⟩
  obtain ⟨e1, h1, he1⟩ := run_compound hnn hinit (he ▸ acc_sss.1) σ.first hw.1
  obtain ⟨e, h, he⟩ := run_rest hnn σ.rest hw.2 h1 he1
  rw [← runFrom_append, ← Sel.toks, ← run_eq_runFrom] at h
  generalize run T m σ.toks = s at h
  -- the last `expected` holds the word "combinator"; `element_name` and `sss` do not
  have n1 : (e == elementName) = false := beq_false_of_ne fun h' => acc_combinator.2 (h' ▸ he)
  have n2 : (e == sss) = false := beq_false_of_ne fun h' => acc_sss.2 (h' ▸ he)
  simp [finish, h.wf, h.err, h.items, h.ctx, h.exp, n1, n2, h.b, h.c, h.d, Sel.spec, init, Spec.add]

end CssVerif.Selector
