import CssVerif.Model.Urls
namespace CssVerif.Urls

mutual
  theorem decls_replace (f : Url → Url) : ∀ n : Node, declsOf true (replaceIn true f n) = (declsOf true n).map f
    | .import_ _ => rfl
    | .style us => rfl
    | .page own ms => by simp [replaceIn, declsOf, List.map_flatten]
    | .media kids => by simp only [replaceIn, declsOf]; exact declsList_replace f kids
    | .other => rfl
  theorem declsList_replace (f : Url → Url) : ∀ ns : List Node,
      declsOfList true (replaceInList true f ns) = (declsOfList true ns).map f
    | [] => rfl
    | n :: ns => by simp [replaceInList, declsOfList, decls_replace f n, declsList_replace f ns]
end

theorem imports_replaceIn (fx : Bool) (f : Url → Url) : ∀ ns : List Node,
    importHrefs (replaceInList fx f ns) = importHrefs ns
  | [] => rfl
  | n :: ns => by cases n <;> simp [replaceInList, replaceIn, importHrefs, imports_replaceIn fx f ns]

theorem imports_replaceImports (f : Url → Url) : ∀ ns : List Node,
    importHrefs (replaceImports f ns) = (importHrefs ns).map f
  | [] => rfl
  | n :: ns => by cases n <;> simp [replaceImports, importHrefs, imports_replaceImports f ns]

mutual
  theorem decls_replaceImports_node (fx : Bool) : ∀ n : Node, True
    | _ => trivial
end

theorem decls_replaceImports (fx : Bool) (f : Url → Url) : ∀ ns : List Node,
    declsOfList fx (replaceImports f ns) = declsOfList fx ns
  | [] => rfl
  | n :: ns => by cases n <;> simp [replaceImports, declsOfList, declsOf, decls_replaceImports fx f ns]

/-- **replace, then get = map**: every URL is handed to the replacer exactly once, imports optional -/
theorem replace_then_get (f : Url → Url) (sheet : List Node) :
    getUrls true (replaceUrls true f false sheet) = (getUrls true sheet).map f ∧
    getUrls true (replaceUrls true f true sheet) = importHrefs sheet ++ (declsOfList true sheet).map f := by
  constructor
  · simp [getUrls, replaceUrls, imports_replaceIn, imports_replaceImports, declsList_replace, decls_replaceImports]
  · simp [getUrls, replaceUrls, imports_replaceIn, declsList_replace]

/-- `n` inside `d` nested @media rules -/
def nest : Nat → Node → Node
  | 0, n => n
  | d + 1, n => .media [nest d n]

/-- the snapshot (`getUrls false`) skips the declarations of an @page rule -/
theorem snapshot_page :
    getUrls false [.page [[1]] [[[2]]]] = [[2]] ∧ getUrls true [.page [[1]] [[[2]]]] = [[1], [2]] := by decide +kernel

/-- no backslash.  (The model's `cssString` is `helper.string` only on values without newline, form feed and
carriage return as well; that is a condition on reading the theorems in terms of /repo, not one the proofs use.) -/
def Safe (u : Url) : Prop := ∀ c ∈ u, c ≠ 92

def escQ (v : Url) : Url := v.flatMap (fun c => if c = 34 then [92, 34] else [c])

theorem unescape_cons (q c : Nat) (r : Url) (hc : c ≠ 92) : unescape q (c :: r) = c :: unescape q r := by
  conv => lhs; unfold unescape
  split
  · next heq => cases heq; exact absurd rfl hc
  · next heq => cases heq; rfl
  · next heq => cases heq

theorem unescape_quote (q : Nat) (r : Url) : unescape q (92 :: q :: r) = q :: unescape q r := by
  simp [unescape]

theorem unescape_esc (v t : Url) (hs : Safe v) : unescape 34 (escQ v ++ t) = v ++ unescape 34 t := by
  induction v with
  | nil => rfl
  | cons c v ih =>
    have ih' := ih fun x hx => hs x (List.mem_cons_of_mem _ hx)
    show unescape 34 ((if c = 34 then [92, 34] else [c]) ++ escQ v ++ t) = _
    by_cases h : c = 34
    · subst h
      show unescape 34 (92 :: 34 :: (escQ v ++ t)) = _
      rw [unescape_quote, ih']
      rfl
    · rw [if_neg h]
      show unescape 34 (c :: (escQ v ++ t)) = _
      rw [unescape_cons _ _ _ (hs c List.mem_cons_self), ih']
      rfl

/-- every piece `escQ` writes ends in the character itself or in `"` -/
theorem escQ_last (v : Url) (hs : Safe v) : (escQ v).getLast? ≠ some 92 := by
  induction v with
  | nil => nofun
  | cons c v ih =>
    have ih' := ih fun x hx => hs x (List.mem_cons_of_mem _ hx)
    show ((if c = 34 then [92, 34] else [c]) ++ escQ v).getLast? ≠ some 92
    rw [List.getLast?_append]
    cases h : (escQ v).getLast? with
    | some x => rw [h] at ih'; exact ih'
    | none =>
      split
      · decide
      · exact fun e => hs c List.mem_cons_self (Option.some.inj e)

theorem cssString_safe (v : Url) (hs : Safe v) : cssString v = [34] ++ escQ v ++ [34] := by
  show [34] ++ (if ((escQ v).getLast? == some 92) = true then (escQ v).dropLast ++ [92, 92] else escQ v) ++ [34] = _
  rw [if_neg fun h => escQ_last v hs (eq_of_beq h)]

theorem stringValue_cssString (v : Url) (hs : Safe v) : stringValue (cssString v) = v := by
  rw [cssString_safe v hs]
  show ((unescape 34 (34 :: (escQ v ++ [34]))).drop 1).dropLast = v
  rw [unescape_cons 34 34 _ (by decide), unescape_esc v [34] hs]
  exact List.dropLast_concat

theorem strip_id (s : Url) (h1 : ∀ a ∈ s.head?, isCssWs a = false) (h2 : ∀ b ∈ s.getLast?, isCssWs b = false) :
    strip s = s := by
  have drop_id : ∀ l : Url, (∀ a ∈ l.head?, isCssWs a = false) → l.dropWhile isCssWs = l := by
    intro l h
    cases l with
    | nil => rfl
    | cons a r => exact List.dropWhile_cons_of_neg (by rw [h a rfl]; exact Bool.false_ne_true)
  unfold strip
  rw [drop_id s h1, drop_id s.reverse (by rw [List.head?_reverse]; exact h2), List.reverse_reverse]

theorem isCssWs_of_bare (c : Nat) (h : forbidden true c = false) : isCssWs c = false := by
  cases hw : isCssWs c with
  | false => rfl
  | true =>
    simp only [isCssWs, Bool.or_eq_true, beq_iff_eq] at hw
    rcases hw with (((e | e) | e) | e) | e <;> subst e <;> exact absurd h (by decide)

theorem ne_quote_of_bare (c : Nat) (h : forbidden true c = false) : c ≠ 34 ∧ c ≠ 39 := by
  constructor <;> rintro rfl <;> exact absurd h (by decide)

/-- the first `(` of `url(x)` is the one of `url(`, at index 3 -/
theorem url_paren (x : Url) : ([117, 114, 108, 40] ++ x ++ [41]).findIdx? (· == 40) = some 3 := rfl

theorem url_inner (x : Url) :
    (([117, 114, 108, 40] ++ x ++ [41]).drop
      ((([117, 114, 108, 40] ++ x ++ [41]).findIdx? (· == 40)).getD 0 + 1)).dropLast = x := by
  rw [url_paren]
  exact List.dropLast_concat

/-- **a URL survives being written and read back**: for every string without backslash, whatever else it
contains (quotes, brackets, separators, spaces, control characters, any non-ASCII character); for newline,
form feed and carriage return see `Safe` -/
theorem uri_roundtrip (u : Url) (hs : Safe u) : uriValue (cssUri true u) = u := by
  unfold cssUri uriValue
  rw [url_inner]
  by_cases hq : u.any (forbidden true) = true
  · -- quoted
    have hh : (cssString u).head? = some 34 := by rw [cssString_safe u hs]; rfl
    have hl : (cssString u).getLast? = some 34 := by rw [cssString_safe u hs]; exact List.getLast?_concat
    have hstrip : strip (cssString u) = cssString u :=
      strip_id _ (by rw [hh]; intro a ha; cases ha; rfl) (by rw [hl]; intro b hb; cases hb; rfl)
    simp only [hq, if_true, hstrip, hh, hl]
    exact stringValue_cssString u hs
  · -- bare
    have hnone : ∀ c ∈ u, forbidden true c = false := fun c hc =>
      Bool.eq_false_iff.mpr fun hf => hq (List.any_eq_true.2 ⟨c, hc, hf⟩)
    have hstrip : strip u = u :=
      strip_id u (fun a ha => isCssWs_of_bare a (hnone a (List.mem_of_mem_head? ha)))
        (fun b hb => isCssWs_of_bare b (hnone b (List.mem_of_getLast? hb)))
    simp only [hq, Bool.false_eq_true, if_false, hstrip]
    split
    · next a b ha _ =>
      obtain ⟨h34, h39⟩ := ne_quote_of_bare a (hnone a (List.mem_of_mem_head? ha))
      simp [h34, h39]
    · rfl

end CssVerif.Urls
