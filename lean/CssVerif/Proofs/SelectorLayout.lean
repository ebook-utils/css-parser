/-
C16, layouts.  `Proofs/SelectorText.lean` writes a selector with exactly one blank at every place where the
grammar (`Sel`) has white space: the descendant combinator, the `before` / `after` flags of the `Layout` of
an explicit combinator, and `ArgTok.ws` among the arguments of a functional pseudo-class.  Here each of
these places gets an arbitrary non-empty run of the characters of the S production (`Spacing`,
`Sel.textWith`), and three things are proved:

* `step_s_value` / `run_normS`: the state machine never looks at the VALUE of an S token;
* `prepass_normS`: the pre-pass commutes with forgetting the values of S tokens (as long as those values do
  not start with `:` `*` `|` and are not `.` — white space qualifies);
* `lexWith_classify`, `prepass_lexWith`, `run_lexWith`: the re-spaced lexeme sequence still meets the
  hypotheses of `C09.classify_sequence` (a lexeme of the classes a selector is written with may be followed
  by ANY white space, `tol_stop`; white-space-free patterns such as the byte-order marks see the same start
  of the text, `resp_bom`), its tokens are those of the single-blank layout up to S values, and the state
  machine ends in the same state.
-/
import CssVerif.Proofs.SelectorText
namespace CssVerif.Selector
open CssVerif.C09 (Lexeme canFollow chain ratioFree)

/-! ## the value of an S token does not matter -/

def normS (t : T2) : T2 := if t.1 = .s then (.s, str " ") else t

theorem normS_s (v : Text) : normS (.s, v) = (.s, str " ") := rfl
theorem normS_of_ne {t : T2} (h : t.1 ≠ .s) : normS t = t := by simp [normS, h]

/-- **the state machine ignores the value of an S token** -/
theorem step_s_value (T : Tables) (m : NsMap) (st : St) (v w : Text) :
    step T m st (.s, v) = step T m st (.s, w) := rfl

theorem step_normS (T : Tables) (m : NsMap) (st : St) (t : T2) : step T m st (normS t) = step T m st t := by
  obtain ⟨ty, v⟩ := t
  by_cases h : ty = .s
  · subst h; rfl
  · rw [normS_of_ne h]

theorem run_normS (T : Tables) (m : NsMap) (ts : List T2) : run T m (ts.map normS) = run T m ts := by
  simp only [run, List.foldl_map, step_normS]

/-- an S token carries a value the pre-pass does not look at twice: it does not start with `:` `*` `|`
and is not `.` -/
def SOk (t : T2) : Prop := t.1 = .s → Plain t.2

theorem plain_blank : Plain (str " ") := ⟨32, [], rfl, by decide, by decide, by decide, fun _ => by decide⟩

theorem sok_normS (t : T2) : SOk (normS t) := by
  intro h
  by_cases ht : t.1 = .s
  · simp only [normS, ht, if_true]; exact plain_blank
  · rw [normS_of_ne ht] at h; exact absurd h ht

theorem pstep_after_s (v : Text) (hv : Plain v) (rest : List T2) (t : T2) :
    pstep ((.s, v) :: rest) t =
      (if t.2 == str "*" then (.universal, t.2) else if t.2 == str "|" then (.nsprefix, t.2) else t) ::
        (.s, v) :: rest := by
  obtain ⟨h1, -, -, h4, h5⟩ := plain_facts hv
  simp [pstep, prepassStep, s_colon, s_dot, h1, h4, h5, apply_ite (· :: (TT.s, v) :: rest)]

theorem normS_kind (c : Bool) (v : Text) :
    normS (if c then TT.pelem else TT.pclass, v) = (if c then TT.pelem else TT.pclass, v) := by
  cases c <;> rfl

/-- neither token is an S token: the same case of the pre-pass on both sides -/
theorem pstep_comm_plain (l t : T2) (hl : l.1 ≠ .s) (ht : t.1 ≠ .s) (R : List T2) :
    pstep (l :: R.map normS) t = (pstep (l :: R) t).map normS := by
  have e1 : normS l = l := normS_of_ne hl
  have e2 : normS t = t := normS_of_ne ht
  have e3 : ∀ v, normS (t.1, v) = (t.1, v) := fun v => normS_of_ne ht
  have e4 : ∀ v, normS (TT.cls, v) = (TT.cls, v) := fun v => rfl
  have e5 : ∀ v, normS (TT.negation, v) = (TT.negation, v) := fun v => rfl
  have e6 : ∀ v, normS (TT.universal, v) = (TT.universal, v) := fun v => rfl
  have e7 : ∀ v, normS (TT.nsprefix, v) = (TT.nsprefix, v) := fun v => rfl
  simp only [pstep, prepassStep, apply_ite (List.map normS), List.map_cons, e1, e2, e3, e4, e5, e6, e7, normS_kind]

def NoSTop (l : List T2) : Prop := ∀ x ∈ l.head?, x.1 ≠ .s

theorem NoSTop.cons (ty : TT) (v : Text) (r : List T2) (h : ty ≠ .s) : NoSTop ((ty, v) :: r) := by
  intro x hx; cases hx; exact h

theorem pstep_noSTop (acc : List T2) (t : T2) (ht : t.1 ≠ .s) : NoSTop (pstep acc t) := by
  have kind : ∀ (c : Bool) (v : Text) (r : List T2), NoSTop ((if c = true then TT.pelem else TT.pclass, v) :: r) :=
    fun c v r => .cons _ v r (by cases c <;> decide)
  cases acc with
  | nil =>
    exact ite_cases (fun _ => .cons _ _ _ (by decide)) fun _ => ite_cases (fun _ => .cons _ _ _ (by decide)) fun _ =>
      .cons _ _ _ ht
  | cons l R =>
    exact ite_cases (fun _ => .cons _ _ _ ht) fun _ => ite_cases (fun _ => .cons _ _ _ (by decide)) fun _ =>
      ite_cases (fun _ => kind _ _ _) fun _ => ite_cases (fun _ => .cons _ _ _ (by decide)) fun _ =>
      ite_cases (fun _ => kind _ _ _) fun _ => ite_cases (fun _ => .cons _ _ _ (by decide)) fun _ =>
      ite_cases (fun _ => .cons _ _ _ (by decide)) fun _ => ite_cases (fun _ => .cons _ _ _ (by decide)) fun _ =>
      ite_cases (fun _ => .cons _ _ _ (by decide)) fun _ => .cons _ _ _ ht

theorem pstep_comm (acc : List T2) (t : T2) (ht : SOk t) (hh : ∀ x ∈ acc.head?, SOk x) :
    pstep (acc.map normS) (normS t) = (pstep acc t).map normS ∧ ∀ x ∈ (pstep acc t).head?, SOk x := by
  obtain ⟨ty, v⟩ := t
  by_cases hs : ty = .s
  · subst hs
    have hv : Plain v := ht rfl
    rw [normS_s, pstep_plain _ (.s, str " ") plain_blank nofun nofun, pstep_plain _ (.s, v) hv nofun nofun]
    exact ⟨rfl, by intro x hx; simp at hx; subst hx; exact ht⟩
  · refine ⟨?_, fun x hx h => absurd h (pstep_noSTop acc (ty, v) hs x hx)⟩
    rw [normS_of_ne (t := (ty, v)) hs]
    cases acc with
    | nil =>
      simp only [List.map_nil, pstep_nil, apply_ite (List.map normS), List.map_cons, normS_of_ne (t := (ty, v)) hs]
      rfl
    | cons l R =>
      obtain ⟨lt, lv⟩ := l
      by_cases hl : lt = .s
      · subst hl
        have hlv : Plain lv := hh (.s, lv) (by simp) rfl
        rw [List.map_cons, normS_s, pstep_after_s _ plain_blank, pstep_after_s _ hlv]
        simp only [List.map_cons, normS_s, List.cons.injEq, and_true]
        split
        · rfl
        · split
          · rfl
          · exact (normS_of_ne (t := (ty, v)) hs).symm
      · rw [List.map_cons, normS_of_ne (t := (lt, lv)) hl]
        exact pstep_comm_plain (lt, lv) (ty, v) hl hs R

/-- **the pre-pass commutes with forgetting the values of the S tokens** (their values are white space) -/
theorem prepass_normS (ts : List T2) (h : ∀ t ∈ ts, SOk t) :
    prepass Gen.tables (ts.map normS) = (prepass Gen.tables ts).map normS := by
  have comm : ∀ (ts acc : List T2), (∀ t ∈ ts, SOk t) → (∀ x ∈ acc.head?, SOk x) →
      pp (acc.map normS) (ts.map normS) = (pp acc ts).map normS := by
    intro ts
    induction ts with
    | nil => intro acc _ _; rfl
    | cons t ts ih =>
      intro acc hts hh
      obtain ⟨h1, h2⟩ := pstep_comm acc t (hts t List.mem_cons_self) hh
      simp only [List.map_cons, pp_cons, h1]
      exact ih _ (fun x hx => hts x (List.mem_cons_of_mem _ hx)) h2
  show (pp [] (ts.map normS)).reverse = ((pp [] ts).reverse).map normS
  rw [List.map_reverse, ← comm ts [] h (fun _ hx => nomatch hx)]; rfl

/-! ## layouts: any non-empty run of white space where the grammar has a blank -/

def isWsLex : Lexeme → Bool
  | .ws _ _ => true
  | _ => false

/-- the white-space runs (first character, remaining characters) for the white-space places of a
selector, in the order of the text; places beyond the end of the list keep their single blank -/
abbrev Spacing := List (Nat × Text)

/-- a non-empty run of the characters of the S production: space, tab, LF, FF, CR (`C09.gen_S_first`) -/
def wsRunOK (p : Nat × Text) : Bool := C09.isWs p.1 && p.2.all C09.isWs

def respace : Spacing → List Lexeme → List Lexeme
  | _, [] => []
  | sp, l :: ls =>
    if isWsLex l then
      (match sp with
       | p :: sp' => Lexeme.ws p.1 p.2 :: respace sp' ls
       | [] => l :: respace [] ls)
    else l :: respace sp ls

def Sel.lexWith (sp : Spacing) (σ : Sel) : List Lexeme := respace sp σ.lex

def Sel.textWith (sp : Spacing) (σ : Sel) : Text := (σ.lexWith sp).flatMap Lexeme.render

/-- `ls'` is `ls` with every white-space lexeme replaced by some white-space lexeme -/
inductive Resp : List Lexeme → List Lexeme → Prop
  | nil : Resp [] []
  | keep (l : Lexeme) (ls ls' : List Lexeme) : isWsLex l = false → Resp ls ls' → Resp (l :: ls) (l :: ls')
  | ws (c : Nat) (r : Text) (c' : Nat) (r' : Text) (ls ls' : List Lexeme) : wsRunOK (c', r') = true →
      Resp ls ls' → Resp (.ws c r :: ls) (.ws c' r' :: ls')

theorem resp_respace : ∀ (ls : List Lexeme) (sp : Spacing), sp.all wsRunOK = true → (∀ l ∈ ls, l.wf = true) →
    Resp ls (respace sp ls) := by
  intro ls
  induction ls with
  | nil => intro _ _ _; exact .nil
  | cons l ls ih =>
    intro sp hsp hwf
    have hwf' : ∀ x ∈ ls, x.wf = true := fun x hx => hwf x (List.mem_cons_of_mem _ hx)
    cases l with
    | ws c r =>
      cases sp with
      | nil =>
        have : wsRunOK (c, r) = true := hwf (.ws c r) List.mem_cons_self
        exact .ws c r c r _ _ this (ih [] rfl hwf')
      | cons p sp' =>
        simp only [List.all_cons, Bool.and_eq_true] at hsp
        exact .ws c r p.1 p.2 _ _ hsp.1 (ih sp' hsp.2 hwf')
    | _ => exact .keep _ _ _ rfl (ih sp hsp hwf')

/-- the lexeme classes a selector is written with: each of them may be followed by any white space -/
def tol : Lexeme → Bool
  | .ws _ _ | .fast _ | .delim _ | .cdelim _ | .includes | .dashmatch | .prefixmatch | .suffixmatch
  | .substringmatch | .number _ _ | .dimension _ _ _ _ _ | .ident _ _ _ | .function _ _ _ | .hash _ _
  | .string _ _ => true
  | _ => false

theorem isWs_mem {c : Nat} (h : C09.isWs c = true) : c ∈ [9, 10, 12, 13, 32] := by
  simpa [C09.isWs, or_assoc] using h

theorem plain_ws {c : Nat} (r : Text) (h : C09.isWs c = true) : Plain (c :: r) := by
  have tbl : ∀ c ∈ [9, 10, 12, 13, 32], c ≠ 58 ∧ c ≠ 42 ∧ c ≠ 124 ∧ c ≠ 46 := by decide
  obtain ⟨h58, h42, h124, h46⟩ := tbl c (isWs_mem h)
  exact ⟨c, r, rfl, h58, h42, h124, fun _ => h46⟩

theorem tol_stop (x : Lexeme) (ht : tol x = true) (hw : x.wf = true) (hn : isWsLex x = false) (c : Nat) (r : Text)
    (hc : C09.isWs c = true) : x.stopLocal (c :: r) = true := by
  have hcw := isWs_mem hc
  have tbl : ∀ c ∈ [9, 10, 12, 13, 32], isDigit c = false ∧ c ≠ 46 ∧ isNmStart c = false ∧ c ≠ 92 ∧ c ≠ 45 ∧
      isNmChar c = false ∧ c ≠ 40 ∧ c ≠ 43 ∧ c ≠ 37 := by decide
  obtain ⟨hdg, h46, hns, h92, h45, hnc, h40, h43, h37⟩ := tbl c hcw
  cases x with
  | ws c0 r0 => cases hn
  | cdelim c0 =>
    -- the stop condition looks at one character: a table of 12 delimiters by 5 white-space characters
    have stop : ∀ c0 ∈ C09.ctxDelims, ∀ c ∈ [9, 10, 12, 13, 32], C09.ctxStop c0 [c] = true := by decide +kernel
    have := C09.stopLocal_head (.cdelim c0) (by intro s n h; cases h) c [] r
    exact this.trans (stop c0 (by simpa [Lexeme.wf] using hw) c hcw)
  | number s n =>
    simp [Lexeme.stopLocal, C09.numStop, identStart, nameStart, dotDigit, h45, hns, h92, hdg, h37, h46]
  | dimension s n m u us => simp [Lexeme.stopLocal, C09.nameStop, hnc, h92]
  | ident m u us => simp [Lexeme.stopLocal, C09.identStop, hnc, h92, h40, h43]
  | hash n ns => simp [Lexeme.stopLocal, C09.nameStop, hnc, h92]
  | fast _ => rfl
  | delim _ => rfl
  | includes => rfl
  | dashmatch => rfl
  | prefixmatch => rfl
  | suffixmatch => rfl
  | substringmatch => rfl
  | function _ _ _ => rfl
  | string _ _ => rfl
  | _ => cases ht

theorem canFollow_to_ws (x : Lexeme) (ht : tol x = true) (hw : x.wf = true) (hn : isWsLex x = false) (c : Nat)
    (r : Text) (hc : C09.isWs c = true) : canFollow x (.ws c r) = true := by
  have := tol_stop x ht hw hn c r hc
  cases x with
  | number s n => simpa [canFollow, Lexeme.render] using this
  | _ => rw [canFollow_nonnum _ _ (by intro s n h; cases h)]; exact this

/-- what is known about every lexeme of a selector, in any layout -/
structure Tolerant (l : Lexeme) : Prop where
  wf : l.wf = true
  noSlash : sf l = true
  tol : tol l = true

theorem tolerant_ws (c : Nat) (r : Text) (h : wsRunOK (c, r) = true) : Tolerant (.ws c r) := by
  refine ⟨h, ?_, rfl⟩
  simp only [wsRunOK, Bool.and_eq_true, List.all_eq_true] at h
  simp only [sf, Lexeme.render, Bool.or_eq_true, List.all_eq_true]
  left
  intro x hx
  rcases List.mem_cons.mp hx with rfl | hx
  · exact h.1
  · exact h.2 x hx

theorem resp_tolerant {ls ls' : List Lexeme} (h : Resp ls ls') (hg : ∀ l ∈ ls, Tolerant l) : ∀ l ∈ ls', Tolerant l := by
  induction h with
  | nil => intro l hl; cases hl
  | keep l ls ls' _ _ ih =>
    intro x hx
    rcases List.mem_cons.mp hx with rfl | hx
    · exact hg _ List.mem_cons_self
    · exact ih (fun y hy => hg y (List.mem_cons_of_mem _ hy)) x hx
  | ws c r c' r' ls ls' hok _ ih =>
    intro x hx
    rcases List.mem_cons.mp hx with rfl | hx
    · exact tolerant_ws c' r' hok
    · exact ih (fun y hy => hg y (List.mem_cons_of_mem _ hy)) x hx

theorem chain_cons2 (a b : Lexeme) (l : List Lexeme) :
    K (a :: b :: l) ↔ canFollow a b = true ∧ K (b :: l) := by
  show (canFollow a b && chain canFollow (b :: l)) = true ↔ _
  simp

theorem not_chain_ws_ws {c c2 : Nat} {r r2 : Text} {t : List Lexeme} (h2 : Tolerant (.ws c2 r2)) :
    ¬ K (.ws c r :: .ws c2 r2 :: t) := by
  have hw := h2.wf
  simp only [Lexeme.wf, Bool.and_eq_true] at hw
  simp [chain_cons2, canFollow, Lexeme.stopLocal, Lexeme.render, hw.1]

/-- adjacency survives a change of layout: a kept lexeme may be followed by any white space (`canFollow_to_ws`),
what follows white space does not depend on the run, and white space is never followed by white space -/
theorem resp_chain {ls ls' : List Lexeme} (h : Resp ls ls') (hg : ∀ l ∈ ls, Tolerant l) (hk : K ls) : K ls' := by
  induction h with
  | nil => rfl
  | keep l ls ls' hl hr ih =>
    have hg' : ∀ y ∈ ls, Tolerant y := fun y hy => hg y (List.mem_cons_of_mem _ hy)
    cases hr with
    | nil => rfl
    | keep b t t' hb ht =>
      rw [chain_cons2] at hk ⊢
      exact ⟨hk.1, ih hg' hk.2⟩
    | ws c r c' r' t t' hok ht =>
      rw [chain_cons2] at hk ⊢
      simp only [wsRunOK, Bool.and_eq_true] at hok
      exact ⟨canFollow_to_ws l (hg l List.mem_cons_self).tol (hg l List.mem_cons_self).wf hl c' r' hok.1, ih hg' hk.2⟩
  | ws c r c' r' ls ls' hok hr ih =>
    have hg' : ∀ y ∈ ls, Tolerant y := fun y hy => hg y (List.mem_cons_of_mem _ hy)
    cases hr with
    | nil => rfl
    | keep b t t' hb ht =>
      rw [chain_cons2] at hk ⊢
      exact ⟨hk.1, ih hg' hk.2⟩
    | ws c2 r2 c2' r2' t t' hok2 ht => exact absurd hk (not_chain_ws_ws (hg' _ List.mem_cons_self))

/-! ### the start of the text: patterns without white space see the same thing -/

def SamePre (B B' : Text) : Prop := ∀ pat : Text, (∀ x ∈ pat, C09.isWs x = false) → pat.isPrefixOf B = pat.isPrefixOf B'

theorem samePre_append (A : Text) {B B' : Text} (h : SamePre B B') : SamePre (A ++ B) (A ++ B') := by
  induction A with
  | nil => exact h
  | cons a A ih =>
    intro pat hp
    cases pat with
    | nil => rfl
    | cons p ps =>
      simp only [List.cons_append, List.isPrefixOf]
      rw [ih ps (fun x hx => hp x (List.mem_cons_of_mem _ hx))]

theorem samePre_ws (c c' : Nat) (A A' : Text) (hc : C09.isWs c = true) (hc' : C09.isWs c' = true) :
    SamePre (c :: A) (c' :: A') := by
  intro pat hp
  cases pat with
  | nil => rfl
  | cons p ps =>
    have hpw := hp p List.mem_cons_self
    have h1 : (p == c) = false := by
      cases hb : (p == c) with
      | false => rfl
      | true => rw [show p = c by simpa using hb, hc] at hpw; cases hpw
    have h2 : (p == c') = false := by
      cases hb : (p == c') with
      | false => rfl
      | true => rw [show p = c' by simpa using hb, hc'] at hpw; cases hpw
    simp [List.isPrefixOf, h1, h2]

theorem resp_samePre {ls ls' : List Lexeme} (h : Resp ls ls') (hg : ∀ l ∈ ls, Tolerant l) :
    SamePre (ls.flatMap Lexeme.render) (ls'.flatMap Lexeme.render) := by
  induction h with
  | nil => intro _ _; rfl
  | keep l ls ls' _ _ ih =>
    simp only [List.flatMap_cons]
    exact samePre_append _ (ih (fun y hy => hg y (List.mem_cons_of_mem _ hy)))
  | ws c r c' r' ls ls' hok _ _ =>
    have hw := (hg (.ws c r) List.mem_cons_self).wf
    simp only [Lexeme.wf, Bool.and_eq_true] at hw
    simp only [wsRunOK, Bool.and_eq_true] at hok
    exact samePre_ws c c' _ _ hw.1 hok.1

theorem resp_bom {ls ls' : List Lexeme} (h : Resp ls ls') (hg : ∀ l ∈ ls, Tolerant l) :
    startsWithBom (ls'.flatMap Lexeme.render) = startsWithBom (ls.flatMap Lexeme.render) := by
  have := resp_samePre h hg
  simp only [startsWithBom, hasAt]
  rw [this [254, 255] (by decide), this [239, 187, 191] (by decide)]

theorem resp_toks {ls ls' : List Lexeme} (h : Resp ls ls') :
    (ls'.map tokOf).map normS = (ls.map tokOf).map normS := by
  induction h with
  | nil => rfl
  | keep l ls ls' _ _ ih => simp only [List.map_cons, ih]
  | ws c r c' r' ls ls' _ _ ih =>
    simp only [List.map_cons, ih]
    rfl

theorem sok_tok (l : Lexeme) (h : Tolerant l) : SOk (tokOf l) := by
  obtain ⟨hw, -, ht⟩ := h
  rw [tokOf_eq]
  intro hs
  cases l with
  | ws c r =>
    simp only [Lexeme.wf, Bool.and_eq_true] at hw
    exact plain_ws r hw.1
  | cdo | cdc | percentage _ _ | atkeyword _ _ _ | comment _ | identE _ _ _ | hashE _ _ | dimensionE _ _ _ _ _ =>
    cases ht
  | _ => cases hs

def AllTol (ls : List Lexeme) : Prop := ∀ l ∈ ls, tol l = true

theorem AllTol.append {a b : List Lexeme} (h1 : AllTol a) (h2 : AllTol b) : AllTol (a ++ b) :=
  List.forall_mem_append.mpr ⟨h1, h2⟩

theorem Written.tol {l : Lexeme} (h : Written l) : tol l = true := by
  cases h with
  | op op => cases op <;> rfl
  | _ => rfl

theorem tolerant_sel (σ : Sel) (h : σ.NamesOK = true) : ∀ l ∈ σ.lex, Tolerant l :=
  fun l hl => ⟨(written_sel σ h l hl).good.1, (written_sel σ h l hl).good.2, (written_sel σ h l hl).tol⟩

theorem resp_lexWith (σ : Sel) (hn : σ.NamesOK = true) (sp : Spacing) (hsp : sp.all wsRunOK = true) :
    Resp σ.lex (σ.lexWith sp) :=
  resp_respace σ.lex sp hsp (fun l hl => (tolerant_sel σ hn l hl).wf)

/-- **the lexemes of a selector in any layout meet the hypotheses of `C09.classify_sequence`** -/
theorem lexWith_classify (σ : Sel) (hn : σ.NamesOK = true) (sp : Spacing) (hsp : sp.all wsRunOK = true) :
    (∀ l ∈ σ.lexWith sp, l.wf = true) ∧ chain canFollow (σ.lexWith sp) = true ∧
      ratioFree none (σ.lexWith sp) = true ∧ startsWithBom (σ.textWith sp) = false := by
  have hr := resp_lexWith σ hn sp hsp
  have hg := tolerant_sel σ hn
  have hg' := resp_tolerant hr hg
  refine ⟨fun l hl => (hg' l hl).wf, resp_chain hr hg (chain_sel σ hn),
    ratioFree_sf _ none (fun l hl => (hg' l hl).noSlash), ?_⟩
  exact (resp_bom hr hg).trans (lex_classify σ hn).2.2.2

theorem prepass_lexWith (σ : Sel) (hn : σ.NamesOK = true) (sp : Spacing) (hsp : sp.all wsRunOK = true) :
    (prepass Gen.tables ((σ.lexWith sp).map tokOf)).map normS = σ.toks.map normS := by
  have hr := resp_lexWith σ hn sp hsp
  have hg := tolerant_sel σ hn
  have hg' := resp_tolerant hr hg
  have s1 : ∀ t ∈ (σ.lexWith sp).map tokOf, SOk t := by
    intro t ht
    obtain ⟨l, hl, rfl⟩ := List.mem_map.mp ht
    exact sok_tok l (hg' l hl)
  have s2 : ∀ t ∈ σ.lex.map tokOf, SOk t := by
    intro t ht
    obtain ⟨l, hl, rfl⟩ := List.mem_map.mp ht
    exact sok_tok l (hg l hl)
  rw [← prepass_normS _ s1, resp_toks hr, prepass_normS _ s2, prepass_lex σ hn]

theorem run_lexWith (m : NsMap) (σ : Sel) (hn : σ.NamesOK = true) (sp : Spacing) (hsp : sp.all wsRunOK = true) :
    run Gen.tables m (prepass Gen.tables ((σ.lexWith sp).map tokOf)) = run Gen.tables m σ.toks := by
  rw [← run_normS, prepass_lexWith σ hn sp hsp, run_normS]

/-! ### comments are not covered by the layouts

Selector tokenizes with comments kept (`Cfg ⟨false, true⟩`; `_COMMENT` of /repo appends a `CSSComment` item), so
a comment at a white-space place is not a matter of S values.  A COMMENT token is an item of its own for the
state machine (`step_comment`); the pre-pass pushes it and the next token sees it as `last`, so it blocks every
merge (`.` `/**/` `c` is not a class) and `prepass_normS` has no analogue; right after a namespace prefix it
consumes the prefix (`step_comment_pfx`); alone it is not a descendant combinator (`a/**/b` is rejected).
The hypothesis `v ≠ "["` of the two lemmas: `count` weighs an item of any type whose value is `[` as an attribute
selector (`Model/Selector.lean`, Python `val == '['`); no comment has that value. -/

/-- when no namespace prefix is pending, a COMMENT token only records an item: context, `expected`,
counters and verdict are untouched -/
theorem step_comment (T : Tables) (m : NsMap) (st : St) (v : Text) (hp : st.pfx = none) (hv : v ≠ str "[") :
    step T m st (.comment, v) = { st with items := ⟨.comment, v, none⟩ :: st.items } := by
  simp [step, append, hp, count, IT.isSelector, hv]

/-- … but a pending prefix is consumed by it: a comment right after `p|` swallows the prefix -/
theorem step_comment_pfx (T : Tables) (m : NsMap) (st : St) (v p : Text) (hp : st.pfx = some p) (hv : v ≠ str "[") :
    (step T m st (.comment, v)).pfx = none := by
  simp [step, append, hp, count, IT.isSelector, hv]

end CssVerif.Selector
