/-
Facts about the tokenizer model, for an arbitrary `Tables` value satisfying
decidable side conditions (checked on the regenerated tables in Props/C08).
-/
import CssVerif.Model.Tokenizer
import CssVerif.Proofs.ReStar
namespace CssVerif
open Re

/-! ### side conditions on the tables (all decidable) -/

def allNonNullable (T : Tables) : Bool := T.prods.all (fun p => !nullable p.re)

/-- some production is a negated class `[^…]` without look-behind and not named IDENT, and every
character it excludes is covered by some other such production -/
def coversAll (T : Tables) : Bool :=
  T.prods.any (fun p =>
    match p.re with
    | .cls true rs =>
      p.notAfter.isNone && p.name != "IDENT" &&
      rs.all (fun lh => (List.range (lh.2 + 1 - lh.1)).all (fun i =>
        T.prods.any (fun q => q.notAfter.isNone && q.name != "IDENT" && covers q.re (lh.1 + i))))
    | _ => false)

def fastNoNl (T : Tables) : Bool := !T.fastChars.contains 10

def startsWithBackslash : Re → Bool
  | .seq (.cls false [(92, 92)]) _ => true
  | _ => false

def backslashOnly (T : Tables) : Bool :=
  startsWithBackslash T.unicodesub && startsWithBackslash T.cleanstring

/-! ### consumed text and positions -/

theorem consumed_append {s rem : Text} (h : rem <:+ s) : consumed s rem ++ rem = s := by
  obtain ⟨p, rfl⟩ := h
  simp [consumed]

theorem consumed_prefix (s rem : Text) : consumed s rem <+: s := List.take_prefix _ _

theorem consumed_ne_nil {s rem : Text} (h : rem.length < s.length) : consumed s rem ≠ [] := by
  intro hc
  have := congrArg List.length hc
  simp [consumed] at this
  omega

theorem matchProd_exec {p : Prod} {prev : Option Nat} {s rem : Text}
    (h : matchProd p prev s = some rem) : exec p.re s = some rem := by
  unfold matchProd at h
  split at h
  · split at h
    · cases h
    · exact h
  · exact h

/-- position update of the tokenizer for a raw match `f` -/
def adv (lc : Nat × Nat) (f : Text) : Nat × Nat :=
  (lc.1 + countNl f, if countNl f > 0 then tailFromLastNl f else lc.2 + f.length)

/-- the column after `a ++ b` is counted from the last newline of `b`, or, if `b` has none, continues
the count of `a` -/
theorem tailFromLastNl_append (a b : Text) :
    tailFromLastNl (a ++ b) = if countNl b > 0 then tailFromLastNl b else tailFromLastNl a + b.length := by
  simp only [tailFromLastNl, List.reverse_append]
  split
  · rename_i hb
    have : 10 ∈ b := List.count_pos_iff.mp hb
    rw [takeWhile_append_of_exists _ _ _ ⟨10, List.mem_reverse.mpr this, by simp⟩]
  · rename_i hb
    have : 10 ∉ b := List.count_eq_zero.mp (by unfold countNl at hb; omega)
    rw [List.takeWhile_append_of_pos (fun x hx => by
      have hx' := List.mem_reverse.mp hx
      simp only [ne_eq, decide_eq_true_eq]
      intro hx10; subst hx10; exact this hx')]
    simp only [List.length_append, List.length_reverse]
    omega

theorem adv_append (lc : Nat × Nat) (a b : Text) : adv (adv lc a) b = adv lc (a ++ b) := by
  have hcount : countNl (a ++ b) = countNl a + countNl b := List.count_append
  simp only [adv, hcount, tailFromLastNl_append, List.length_append]
  by_cases hb : countNl b > 0
  · have h1 : countNl a + countNl b > 0 := by omega
    simp only [hb, h1, if_true, Nat.add_assoc]
  · have hb0 : countNl b = 0 := by omega
    simp only [hb0, Nat.add_zero, Nat.lt_irrefl, gt_iff_lt, if_false]
    split <;> simp only [Nat.add_assoc]

theorem lineCol_eq_adv (p : Text) : lineCol p = adv (1, 1) p := by
  have h := tailFromLastNl_append [] p
  simp only [List.nil_append] at h
  simp only [lineCol, adv]
  split
  · rfl
  · rename_i hp
    rw [if_neg hp] at h
    exact congrArg (fun x => (1 + countNl p, x)) h

/-! ### one iteration -/

/-- a raw match: not empty, and a prefix of the text, or in full-sheet mode of the text with a completion of at
most two characters -/
def RawOK (cfg : Cfg) (st : St) (x : Text) : Prop :=
  x ≠ [] ∧ ∃ e, x <+: st.rest ++ e ∧ e.length ≤ 2 ∧ (cfg.fullsheet = false → e = [])

/-- what one iteration guarantees.  The second alternative of `pos` is the completed comment of full-sheet mode,
which ends the text and leaves the position as it is. -/
structure StepSpec (cfg : Cfg) (st : St) (r : Res) : Prop where
  raw : RawOK cfg st r.raw
  rest_eq : r.st.rest = st.rest.drop r.raw.length
  pos : (r.st.line, r.st.col) = adv (st.line, st.col) r.raw ∨ r.st.rest = []
  emit_pos : ∀ t, r.emit = some t → t.line = st.line ∧ t.col = st.col

theorem StepSpec.raw_ne {cfg : Cfg} {st : St} {r : Res} (sp : StepSpec cfg st r) : r.raw ≠ [] := sp.raw.1

theorem completeUri_cases (T : Tables) (rest : Text) :
    ∀ (es : List Text) (u : Text), completeUri T rest es = some u →
      ∃ e ∈ es, ∃ up rem, findProd T.prods "URI" = some up ∧ exec up.re (rest ++ e) = some rem ∧
        u = consumed (rest ++ e) rem := by
  intro es
  induction es with
  | nil => intro u h; simp [completeUri] at h
  | cons e es ih =>
    intro u h
    simp only [completeUri] at h
    split at h
    · cases h
    · rename_i up hup
      split at h
      · rename_i rem hrem
        cases h
        exact ⟨e, List.mem_cons_self, up, rem, hup, hrem, rfl⟩
      · obtain ⟨e', he', r⟩ := ih u h
        exact ⟨e', List.mem_cons_of_mem _ he', r⟩

theorem not_nullable_of_mem {T : Tables} (hnn : allNonNullable T = true) {p : Prod} (hp : p ∈ T.prods) :
    nullable p.re = false := by
  simpa using List.all_eq_true.mp hnn p hp

/-- the raw text `finishName` settles on: the match itself, or in full-sheet mode an unterminated string with
its opening quote appended, or the completed `url(` -/
theorem finishName_cases (T : Tables) (cfg : Cfg) (st : St) (name0 : String) (found0 rem : Text) :
    (finishName T cfg st name0 found0 rem).2 = found0 ∨
    cfg.fullsheet = true ∧
      ((finishName T cfg st name0 found0 rem).2 = found0 ++ found0.take 1 ∧ rem = [] ∨
       completeUri T st.rest uriEnds = some (finishName T cfg st name0 found0 rem).2) := by
  unfold finishName
  split
  · rename_i hfull
    split
    · rename_i hinv
      simp only [Bool.and_eq_true, List.isEmpty_iff] at hinv
      exact Or.inr ⟨hfull, Or.inl ⟨rfl, hinv.2⟩⟩
    · split
      · split
        · rename_i u hu; exact Or.inr ⟨hfull, Or.inr hu⟩
        · exact Or.inl rfl
      · exact Or.inl rfl
  · exact Or.inl rfl

/-- raw text and value after `finishVal`: the raw text is unchanged and the value is it, un-escaped or not;
or, for `@charset` followed by a blank, both are the text with the blank -/
theorem finishVal_cases (T : Tables) (st : St) (name : String) (found : Text) :
    (finishVal T st name found).2.1 = found ∧
      ((finishVal T st name found).2.2 = found ∨ (finishVal T st name found).2.2 = unicodeSub T found ∨
        (finishVal T st name found).2.2 = cleanString T (unicodeSub T found)) ∨
    hasAt (st.rest.drop found.length) [32] = true ∧
      (finishVal T st name found).2.1 = found ++ [32] ∧ (finishVal T st name found).2.2 = found ++ [32] := by
  unfold finishVal
  split
  · split
    · exact Or.inl ⟨rfl, Or.inr (Or.inr rfl)⟩
    · exact Or.inl ⟨rfl, Or.inr (Or.inl rfl)⟩
  · split
    · split
      · exact Or.inl ⟨rfl, Or.inl rfl⟩
      · split
        · rename_i hcs
          simp only [Bool.and_eq_true] at hcs
          exact Or.inr ⟨hcs.2, rfl, rfl⟩
        · exact Or.inl ⟨rfl, Or.inr (Or.inl rfl)⟩
    · exact Or.inl ⟨rfl, Or.inl rfl⟩

theorem finishName_rawOK (T : Tables) (hnn : allNonNullable T = true) (cfg : Cfg) (st : St)
    (name0 : String) (rem : Text) (hlt : rem.length < st.rest.length) :
    RawOK cfg st (finishName T cfg st name0 (consumed st.rest rem) rem).2 := by
  have h0 : consumed st.rest rem ≠ [] := consumed_ne_nil hlt
  rcases finishName_cases T cfg st name0 (consumed st.rest rem) rem with h | ⟨hfull, ⟨h, rfl⟩ | h⟩
  · rw [h]
    exact ⟨h0, [], by simpa using consumed_prefix _ _, by simp, fun _ => rfl⟩
  · have hc : consumed st.rest [] = st.rest := by simp [consumed]
    rw [h]
    refine ⟨by simp [h0], (consumed st.rest []).take 1, ?_, by simp; omega, ?_⟩
    · rw [hc]; exact List.prefix_refl _
    · intro hf; simp [hfull] at hf
  · obtain ⟨e, he, up, r, hup, hr, hu⟩ := completeUri_cases T st.rest uriEnds _ h
    have hlen : ∀ e ∈ uriEnds, e.length ≤ 2 := by decide
    rw [hu]
    exact ⟨consumed_ne_nil (exec_progress up.re (not_nullable_of_mem hnn (List.mem_of_find?_eq_some hup)) _ _ hr),
      e, consumed_prefix _ _, hlen e he, fun hf => by simp [hfull] at hf⟩

theorem finishVal_rawOK (T : Tables) (cfg : Cfg) (st : St) (name : String) (found : Text)
    (hraw : RawOK cfg st found) : RawOK cfg st (finishVal T st name found).2.1 := by
  rcases finishVal_cases T st name found with ⟨h, _⟩ | ⟨hcs, h, _⟩
  · rw [h]; exact hraw
  · -- `@charset` and the blank after it: the blank is the next character of the text
    obtain ⟨_, e, hp, _, _⟩ := hraw
    have h32 : [32] <+: st.rest.drop found.length := List.isPrefixOf_iff_prefix.mp hcs
    have hlen : found.length ≤ st.rest.length := by
      apply Nat.le_of_not_lt
      intro hc
      rw [List.drop_eq_nil_iff.mpr (Nat.le_of_lt hc)] at h32
      simp at h32
    have := (List.prefix_append_right_inj found).mpr h32
    rw [List.prefix_iff_eq_append.mp (List.prefix_of_prefix_length_le hp (List.prefix_append _ e) hlen)] at this
    rw [h]
    exact ⟨by simp, [], by simpa using this, by simp, fun _ => rfl⟩

theorem finish_spec (T : Tables) (hnn : allNonNullable T = true) (cfg : Cfg) (st : St)
    (name0 : String) (rem : Text) (hlt : rem.length < st.rest.length) :
    StepSpec cfg st (finish T cfg st name0 (consumed st.rest rem) rem) := by
  have h1 := finishName_rawOK T hnn cfg st name0 rem hlt
  have h2 := finishVal_rawOK T cfg st (finishName T cfg st name0 (consumed st.rest rem) rem).1 _ h1
  refine ⟨h2, ?_, Or.inl ?_, ?_⟩
  · simp [finish, advance]
  · simp [finish, advance, adv]
  · intro t ht
    simp only [finish] at ht
    split at ht
    · cases ht; exact ⟨rfl, rfl⟩
    · cases ht

/-- what full-sheet mode makes of an unterminated comment at the end of the text -/
def commentRes (st : St) : Res :=
  { emit := some ⟨"COMMENT", st.rest ++ [42, 47], st.line, st.col⟩, raw := st.rest ++ [42, 47],
    st := { st with prev := none, rest := [] } }

theorem tryProds_cases (T : Tables) (cfg : Cfg) (st : St) :
    ∀ (ps : List Prod) (r : Res), tryProds T cfg st ps = some r →
      cfg.fullsheet = true ∧ cfg.doComments = true ∧ r = commentRes st ∨
      ∃ p ∈ ps, ∃ rem, matchProd p st.prev st.rest = some rem ∧
        r = finish T cfg st p.name (consumed st.rest rem) rem := by
  intro ps
  induction ps with
  | nil => intro r h; simp [tryProds] at h
  | cons p ps ih =>
    intro r h
    have ih' := fun h => (ih r h).imp_right
      (fun ⟨q, hq, hr⟩ => Exists.intro q (And.intro (List.mem_cons_of_mem p hq) hr))
    simp only [tryProds] at h
    split at h
    · rename_i r' hsp
      cases h
      split at hsp
      · rename_i hcond
        simp only [Bool.and_eq_true] at hcond
        split at hsp
        · split at hsp
          · rename_i hdc
            simp only [Bool.and_eq_true] at hdc
            cases hsp
            exact Or.inl ⟨hcond.1.1, hdc.2, rfl⟩
          · cases hsp
        · cases hsp
      · cases hsp
    · split at h
      · exact ih' h
      · rename_i rem hm
        split at h
        · exact ih' h
        · cases h
          exact Or.inr ⟨p, List.mem_cons_self, rem, hm, rfl⟩

theorem step_cases (T : Tables) (cfg : Cfg) (st : St) (r : Res) (h : step T cfg st = some r) :
    (∃ c s, st.rest = c :: s ∧ T.fastChars.contains c = true ∧
      r = { emit := some ⟨"CHAR", [c], st.line, st.col⟩, raw := [c],
            st := { prev := some c, rest := s, line := st.line, col := st.col + 1 } }) ∨
    cfg.fullsheet = true ∧ cfg.doComments = true ∧ r = commentRes st ∨
    ∃ p ∈ T.prods, ∃ rem, matchProd p st.prev st.rest = some rem ∧
      r = finish T cfg st p.name (consumed st.rest rem) rem := by
  unfold step at h
  split at h
  · cases h
  · rename_i c s hr
    split at h
    · rename_i hfc
      cases h
      exact Or.inl ⟨c, s, hr, hfc, rfl⟩
    · exact Or.inr (tryProds_cases T cfg st T.prods r h)

theorem step_spec (T : Tables) (hnn : allNonNullable T = true) (hfast : fastNoNl T = true)
    (cfg : Cfg) (st : St) (r : Res)
    (h : step T cfg st = some r) : StepSpec cfg st r := by
  rcases step_cases T cfg st r h with ⟨c, s, hr, hfc, rfl⟩ | ⟨hfull, _, rfl⟩ | ⟨p, hp, rem, hm, rfl⟩
  · refine ⟨⟨by simp, [], ?_, by simp, fun _ => rfl⟩, ?_, Or.inl ?_, ?_⟩
    · rw [hr]; simp
    · simp [hr]
    · have hc10 : c ≠ 10 := by
        intro h10; subst h10
        simp only [fastNoNl, hfc] at hfast; cases hfast
      have : List.count 10 [c] = 0 := by simp [List.count_cons]; omega
      simp [adv, countNl, this]
    · intro t ht; cases ht; exact ⟨rfl, rfl⟩
  · refine ⟨⟨by simp [commentRes], [42, 47], List.prefix_refl _, by simp, ?_⟩, ?_, Or.inr rfl, ?_⟩
    · intro hf; rw [hfull] at hf; cases hf
    · simp [commentRes]
    · intro t ht; cases ht; exact ⟨rfl, rfl⟩
  · exact finish_spec T hnn cfg st p.name rem
      (exec_progress _ (not_nullable_of_mem hnn hp) _ _ (matchProd_exec hm))

/-! ### totality of one iteration -/

theorem tryProds_isSome (T : Tables) (cfg : Cfg) (st : St) :
    ∀ (ps : List Prod) (p : Prod), p ∈ ps → p.name ≠ "IDENT" → (matchProd p st.prev st.rest).isSome →
      (tryProds T cfg st ps).isSome := by
  intro ps
  induction ps with
  | nil => intro p hp; cases hp
  | cons q qs ih =>
    intro p hp hname hmatch
    simp only [tryProds]
    split
    · simp
    · split
      · rename_i hq
        rcases List.mem_cons.mp hp with rfl | hp'
        · rw [hq] at hmatch; simp at hmatch
        · exact ih p hp' hname hmatch
      · split
        · rename_i hcont
          rcases List.mem_cons.mp hp with rfl | hp'
          · simp only [Bool.and_eq_true, beq_iff_eq] at hcont
            exact absurd hcont.1.1 hname
          · exact ih p hp' hname hmatch
        · simp

theorem coversAll_spec (T : Tables) (h : coversAll T = true) (c : Nat) (s : Text) :
    ∃ p ∈ T.prods, p.notAfter = none ∧ p.name ≠ "IDENT" ∧ ms p.re (c :: s) ≠ [] := by
  unfold coversAll at h
  obtain ⟨p, hp, hcond⟩ := List.any_eq_true.mp h
  split at hcond
  · rename_i rs hre
    simp only [Bool.and_eq_true, Option.isNone_iff_eq_none, bne_iff_ne, ne_eq, List.all_eq_true] at hcond
    obtain ⟨⟨hna, hname⟩, hall⟩ := hcond
    by_cases hin : inRanges c rs = true
    · -- c is excluded by the class: some other production covers it
      obtain ⟨lh, hm, hlo, hhi⟩ := inRanges_mem hin
      have := hall lh hm (c - lh.1) (List.mem_range.mpr (by omega))
      obtain ⟨q, hq, hqc⟩ := List.any_eq_true.mp this
      simp only [Bool.and_eq_true, Option.isNone_iff_eq_none, bne_iff_ne, ne_eq] at hqc
      have hc : lh.1 + (c - lh.1) = c := by omega
      rw [hc] at hqc
      exact ⟨q, hq, hqc.1.1, hqc.1.2, covers_ms q.re c hqc.2 s⟩
    · refine ⟨p, hp, hna, hname, ?_⟩
      rw [hre]
      simp [ms, clsMatch, hin]
  · cases hcond

theorem step_isSome (T : Tables) (hcov : coversAll T = true) (cfg : Cfg) (st : St)
    (hrest : st.rest ≠ []) : (step T cfg st).isSome := by
  unfold step
  split
  · rename_i h; exact absurd h hrest
  · rename_i c rs hr
    split
    · simp
    · obtain ⟨p, hp, hna, hname, hms⟩ := coversAll_spec T hcov c rs
      apply tryProds_isSome T cfg st T.prods p hp hname
      rw [hr]
      unfold matchProd
      rw [hna]
      exact exec_isSome_of_ne_nil _ _ hms

/-! ### the loop -/

theorem loop_nil (T : Tables) (cfg : Cfg) (n : Nat) (st : St) (h : st.rest = []) :
    loop T cfg n st = ([], st, .done) := by
  cases n with
  | zero => simp [loop, h]
  | succ n => simp only [loop]; split <;> simp_all

theorem loop_succ_of_step (T : Tables) (cfg : Cfg) (n : Nat) (st : St) (r : Res) (hne : st.rest ≠ [])
    (h : step T cfg st = some r) :
    loop T cfg (n + 1) st =
      ((r.emit, r.raw) :: (loop T cfg n r.st).1, (loop T cfg n r.st).2.1, (loop T cfg n r.st).2.2) := by
  simp only [loop]
  split
  · rename_i hr; exact absurd hr hne
  · split
    · rename_i hnone; rw [h] at hnone; cases hnone
    · rename_i r' hsome
      rw [h] at hsome
      cases hsome
      rfl

/-- induction along the loop: it stops at a state without producing an item (text used up, no fuel, or no
production matches), or makes one step and continues with one unit of fuel less -/
theorem loop_ind (T : Tables) (cfg : Cfg) {P : Nat → St → List (Option Tok × Text) × St × LoopEnd → Prop}
    (stop : ∀ n st e, e = .done ∧ st.rest = [] ∨ e = .fuel ∧ n = 0 ∧ st.rest ≠ [] ∨
      e = .stuck ∧ st.rest ≠ [] ∧ step T cfg st = none → P n st ([], st, e))
    (more : ∀ n st r, st.rest ≠ [] → step T cfg st = some r → P n r.st (loop T cfg n r.st) →
      P (n + 1) st ((r.emit, r.raw) :: (loop T cfg n r.st).1, (loop T cfg n r.st).2.1, (loop T cfg n r.st).2.2)) :
    ∀ n st, P n st (loop T cfg n st) := by
  intro n
  induction n with
  | zero =>
    intro st
    by_cases hr : st.rest = []
    · rw [loop_nil T cfg 0 st hr]; exact stop 0 st _ (Or.inl ⟨rfl, hr⟩)
    · have : loop T cfg 0 st = ([], st, .fuel) := by simp [loop, hr]
      rw [this]; exact stop 0 st _ (Or.inr (Or.inl ⟨rfl, rfl, hr⟩))
  | succ n ih =>
    intro st
    by_cases hr : st.rest = []
    · rw [loop_nil T cfg _ st hr]; exact stop _ st _ (Or.inl ⟨rfl, hr⟩)
    · cases hs : step T cfg st with
      | none =>
        have : loop T cfg (n + 1) st = ([], st, .stuck) := by
          simp only [loop]
          split
          · rename_i h; exact absurd h hr
          · rw [hs]
        rw [this]; exact stop _ st _ (Or.inr (Or.inr ⟨rfl, hr, hs⟩))
      | some r => rw [loop_succ_of_step T cfg n st r hr hs]; exact more n st r hr hs (ih r.st)

theorem loop_done (T : Tables) (hnn : allNonNullable T = true) (hfast : fastNoNl T = true) (hcov : coversAll T = true) (cfg : Cfg) :
    ∀ (n : Nat) (st : St), st.rest.length ≤ n → (loop T cfg n st).2.2 = .done := by
  refine loop_ind T cfg (P := fun n st o => st.rest.length ≤ n → o.2.2 = .done) ?_ ?_
  · rintro n st e (⟨rfl, _⟩ | ⟨_, rfl, hne⟩ | ⟨_, hne, hs⟩) h
    · rfl
    · exact absurd (List.eq_nil_of_length_eq_zero (by omega)) hne
    · have := step_isSome T hcov cfg st hne
      rw [hs] at this; cases this
  · intro n st r hne hs ih h
    have sp := step_spec T hnn hfast cfg st r hs
    have h1 := List.length_pos_iff.mpr sp.raw.1
    have h2 := List.length_pos_iff.mpr hne
    exact ih (by rw [sp.rest_eq, List.length_drop]; omega)

theorem loop_rest_nil (T : Tables) (cfg : Cfg) :
    ∀ (n : Nat) (st : St), (loop T cfg n st).2.2 = .done → (loop T cfg n st).2.1.rest = [] := by
  refine loop_ind T cfg (P := fun _ _ o => o.2.2 = .done → o.2.1.rest = []) ?_ ?_
  · rintro n st e (⟨_, hr⟩ | ⟨rfl, _⟩ | ⟨rfl, _⟩) h
    · exact hr
    · cases h
    · cases h
  · intro n st r _ _ ih h
    exact ih h

/-- partition: the raw matches, in order, spell out the rest of the text followed by at most a
two-character completion, and by nothing when not in full-sheet mode -/
theorem loop_partition (T : Tables) (hnn : allNonNullable T = true) (hfast : fastNoNl T = true) (cfg : Cfg) :
    ∀ (n : Nat) (st : St), ∃ c,
      (loop T cfg n st).1.flatMap (·.2) ++ (loop T cfg n st).2.1.rest = st.rest ++ c ∧
      (c ≠ [] → (loop T cfg n st).2.1.rest = []) ∧ c.length ≤ 2 ∧ (cfg.fullsheet = false → c = []) := by
  refine loop_ind T cfg (P := fun _ st o => ∃ c, o.1.flatMap (·.2) ++ o.2.1.rest = st.rest ++ c ∧
    (c ≠ [] → o.2.1.rest = []) ∧ c.length ≤ 2 ∧ (cfg.fullsheet = false → c = [])) ?_ ?_
  · intro n st e _
    exact ⟨[], by simp, by simp, by simp, fun _ => rfl⟩
  · intro n st r _ hsome ih
    have sp := step_spec T hnn hfast cfg st r hsome
    obtain ⟨c, hc, hcn, hcl, hcf⟩ := ih
    obtain ⟨e, hpre, hel, hef⟩ := sp.raw.2
    simp only [List.flatMap_cons, List.append_assoc]
    by_cases hle : r.raw.length ≤ st.rest.length
    · have hp : r.raw <+: st.rest := List.prefix_of_prefix_length_le hpre (List.prefix_append _ e) hle
      refine ⟨c, ?_, hcn, hcl, hcf⟩
      rw [hc, sp.rest_eq, ← List.append_assoc, List.prefix_iff_eq_append.mp hp]
    · -- the match runs over the end of the text (a completion): the loop stops right after this step
      have hge : st.rest.length ≤ r.raw.length := by omega
      have h0 : r.st.rest = [] := by rw [sp.rest_eq]; exact List.drop_eq_nil_iff.mpr hge
      obtain ⟨e', he'⟩ := List.prefix_of_prefix_length_le (List.prefix_append _ e) hpre hge
      have he'e : e' <+: e := by
        have : st.rest ++ e' <+: st.rest ++ e := by rw [he']; exact hpre
        exact (List.prefix_append_right_inj _).mp this
      rw [loop_nil T cfg n r.st h0]
      refine ⟨e', by simp [h0, he'], fun _ => h0, ?_, ?_⟩
      · have := he'e.length_le; omega
      · intro hf; have := hef hf; subst this; exact List.prefix_nil.mp he'e

/-- every emitted token carries the position reached by the raw matches before it -/
theorem loop_position (T : Tables) (hnn : allNonNullable T = true) (hfast : fastNoNl T = true) (cfg : Cfg) :
    ∀ (n : Nat) (st : St) (i : Nat) (t : Tok) (raw : Text),
      (loop T cfg n st).1[i]? = some (some t, raw) →
      (t.line, t.col) = adv (st.line, st.col) (((loop T cfg n st).1.take i).flatMap (·.2)) := by
  refine loop_ind T cfg (P := fun _ st o => ∀ (i : Nat) (t : Tok) (raw : Text), o.1[i]? = some (some t, raw) →
    (t.line, t.col) = adv (st.line, st.col) ((o.1.take i).flatMap (·.2))) ?_ ?_
  · intro n st e _ i t raw h
    simp at h
  · intro n st r _ hsome ih i t raw h
    have sp := step_spec T hnn hfast cfg st r hsome
    cases i with
    | zero =>
      simp only [List.getElem?_cons_zero, Option.some.injEq] at h
      have := sp.emit_pos t (congrArg Prod.fst h)
      simp [adv, countNl, this.1, this.2]
    | succ j =>
      simp only [List.getElem?_cons_succ] at h
      simp only [List.take_succ_cons, List.flatMap_cons]
      rcases sp.pos with hpos | hnil
      · rw [← adv_append, ← hpos]
        exact ih j t raw h
      · -- the completed comment ends the loop: no further items
        rw [loop_nil T cfg n r.st hnil] at h
        simp at h

/-! ### escape-free texts: nothing is rewritten, values are raw matches -/

theorem ms_backslash_nil (r : Re) (h : startsWithBackslash r = true) (t : Text)
    (ht : ∀ d ∈ t.head?, d ≠ 92) : ms r t = [] := by
  unfold startsWithBackslash at h
  split at h
  · exact (isTest_char 92).seq_stop _ t (fun d hd => by simpa using ht d hd)
  · cases h

theorem exec_backslash_none (r : Re) (h : startsWithBackslash r = true) (c : Nat) (s : Text)
    (hc : c ≠ 92) : exec r (c :: s) = none :=
  exec_none_of_ms_nil r _ (ms_backslash_nil r h _ (by simpa using hc))

/-- `re.sub` changes nothing where the expression matches at no position; `Q` is what is known of the text
and is inherited by its tails -/
theorem reSub_of_none (r : Re) (f : Text → Text) (Q : Text → Prop)
    (hQ : ∀ c s, Q (c :: s) → exec r (c :: s) = none ∧ Q s) :
    ∀ (n : Nat) (s : Text), Q s → reSub r f n s = s := by
  intro n
  induction n with
  | zero => intro s _; simp [reSub]
  | succ n ih =>
    intro s hs
    cases s with
    | nil => simp [reSub]
    | cons c s =>
      simp only [reSub, (hQ c s hs).1]
      rw [ih s (hQ c s hs).2]

def NoBs (t : Text) : Prop := ∀ c ∈ t, c ≠ 92

instance (t : Text) : Decidable (NoBs t) := by unfold NoBs; infer_instance

theorem NoBs_of_prefix {a b : Text} (h : a <+: b) (hb : NoBs b) : NoBs a :=
  fun c hc => hb c (h.subset hc)

theorem NoBs_append {a b : Text} (ha : NoBs a) (hb : NoBs b) : NoBs (a ++ b) :=
  List.forall_mem_append.mpr ⟨ha, hb⟩

theorem reSub_id (r : Re) (h : startsWithBackslash r = true) (f : Text → Text) :
    ∀ (n : Nat) (s : Text), NoBs s → reSub r f n s = s :=
  reSub_of_none r f NoBs (fun c s hs =>
    ⟨exec_backslash_none r h c s (hs c List.mem_cons_self), fun x hx => hs x (List.mem_cons_of_mem _ hx)⟩)

theorem finishName_nobs (T : Tables) (cfg : Cfg) (st : St) (name0 : String) (rem : Text)
    (hr : NoBs st.rest) : NoBs (finishName T cfg st name0 (consumed st.rest rem) rem).2 := by
  have h0 : NoBs (consumed st.rest rem) := NoBs_of_prefix (consumed_prefix _ _) hr
  rcases finishName_cases T cfg st name0 (consumed st.rest rem) rem with h | ⟨_, ⟨h, _⟩ | h⟩
  · rw [h]; exact h0
  · rw [h]; exact NoBs_append h0 (fun c hc => h0 c (List.mem_of_mem_take hc))
  · obtain ⟨e, he, _, _, _, _, hu⟩ := completeUri_cases T st.rest uriEnds _ h
    have hends : ∀ e ∈ uriEnds, ∀ c ∈ e, c ≠ 92 := by decide
    rw [hu]
    exact NoBs_of_prefix (consumed_prefix _ _) (NoBs_append hr (hends e he))

theorem unicodeSub_id (T : Tables) (hb : backslashOnly T = true) (t : Text) (h : NoBs t) :
    unicodeSub T t = t := by
  simp only [backslashOnly, Bool.and_eq_true] at hb
  exact reSub_id _ hb.1 _ _ _ h

theorem cleanString_id (T : Tables) (hb : backslashOnly T = true) (t : Text) (h : NoBs t) :
    cleanString T t = t := by
  simp only [backslashOnly, Bool.and_eq_true] at hb
  exact reSub_id _ hb.2 _ _ _ h

theorem finishVal_val_eq_raw (T : Tables) (hb : backslashOnly T = true) (st : St) (name : String)
    (found : Text) (h : NoBs found) : (finishVal T st name found).2.2 = (finishVal T st name found).2.1 := by
  rcases finishVal_cases T st name found with ⟨h1, h2 | h2 | h2⟩ | ⟨_, h1, h2⟩
  · rw [h1, h2]
  · rw [h1, h2, unicodeSub_id T hb found h]
  · rw [h1, h2, unicodeSub_id T hb found h, cleanString_id T hb found h]
  · rw [h1, h2]

theorem step_val (T : Tables) (hb : backslashOnly T = true) (cfg : Cfg) (st : St) (r : Res)
    (hr : NoBs st.rest) (h : step T cfg st = some r) : ∀ t, r.emit = some t → t.val = r.raw := by
  rcases step_cases T cfg st r h with ⟨c, s, _, _, rfl⟩ | ⟨_, _, rfl⟩ | ⟨p, _, rem, _, rfl⟩
  · intro t ht; cases ht; rfl
  · intro t ht; cases ht; rfl
  · intro t ht
    simp only [finish] at ht
    split at ht
    · cases ht
      exact finishVal_val_eq_raw T hb st _ _ (finishName_nobs T cfg st p.name rem hr)
    · cases ht

/-- in an escape-free text every emitted token's value is its raw match -/
theorem loop_values (T : Tables) (hnn : allNonNullable T = true) (hfast : fastNoNl T = true)
    (hb : backslashOnly T = true) (cfg : Cfg) :
    ∀ (n : Nat) (st : St), NoBs st.rest →
      ∀ it ∈ (loop T cfg n st).1, ∀ t, it.1 = some t → t.val = it.2 := by
  refine loop_ind T cfg
    (P := fun _ st o => NoBs st.rest → ∀ it ∈ o.1, ∀ t, it.1 = some t → t.val = it.2) ?_ ?_
  · intro n st e _ _ it hit
    cases hit
  · intro n st r _ hsome ih hr it hit t ht
    rcases List.mem_cons.mp hit with rfl | hit'
    · exact step_val T hb cfg st r hr hsome t ht
    · refine ih ?_ it hit' t ht
      rw [(step_spec T hnn hfast cfg st r hsome).rest_eq]
      exact fun c hc => hr c (List.mem_of_mem_drop hc)

/-! ### with comments kept every iteration emits its token -/

theorem step_emits (T : Tables) (cfg : Cfg) (hc : cfg.doComments = true) (st : St) (r : Res)
    (h : step T cfg st = some r) : r.emit.isSome := by
  rcases step_cases T cfg st r h with ⟨_, _, _, _, rfl⟩ | ⟨_, _, rfl⟩ | ⟨_, _, _, _, rfl⟩
  · rfl
  · rfl
  · simp [finish, hc]

theorem loop_emits (T : Tables) (cfg : Cfg) (hc : cfg.doComments = true) :
    ∀ (n : Nat) (st : St), ∀ it ∈ (loop T cfg n st).1, it.1.isSome := by
  refine loop_ind T cfg (P := fun _ _ o => ∀ it ∈ o.1, it.1.isSome) ?_ ?_
  · intro n st e _ it hit
    cases hit
  · intro n st r _ hsome ih
    exact List.forall_mem_cons.mpr ⟨step_emits T cfg hc st r hsome, ih⟩

/-! ### the prelude -/

/-- the text starts with one of the two byte-order-mark spellings the tokenizer looks for
(`þÿ` = FE FF, `ï»¿` = EF BB BF, as code points) -/
def startsWithBom (s : Text) : Bool := hasAt s [254, 255] || hasAt s [239, 187, 191]

theorem prelude_trivial (T : Tables) (s : Text) (hbom : exec T.bom s = none) (hcs : hasAt s charsetLit = false) :
    prelude T s = ([], { prev := none, rest := s, line := 1, col := 1 }) := by
  simp [prelude, hbom, hcs]

theorem tokenize_of_trivial_prelude (T : Tables) (cfg : Cfg) (hfs : cfg.fullsheet = false) (s : Text)
    (hbom : exec T.bom s = none) (hcs : hasAt s charsetLit = false) :
    (tokenize T cfg s).items = (loop T cfg (s.length + 1) ⟨none, s, 1, 1⟩).1 ∧
    (tokenize T cfg s).eof = none := by
  simp [tokenize, prelude_trivial T s hbom hcs, hfs]

end CssVerif
