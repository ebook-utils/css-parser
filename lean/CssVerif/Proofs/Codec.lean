/-
The three text-level functions on the three shapes of a text; stability of the detectors and of the
header rewrite under extension of the input; the detection priority; chunking invariance of the
incremental decoder and its agreement with the one-shot `decode`.
-/
import CssVerif.Model.Codec
namespace CssVerif.Codec

/-- the name `_fixencoding` writes into the header -/
def written (e : Text) : Text := if isUtf8Sig e then utf8 else e

theorem charsetPrefix_eq : charsetPrefix = [64, 99, 104, 97, 114, 115, 101, 116, 32, 34] := by decide +kernel

-- `subst` and `rcases … rfl` put both sides in weak head normal form, which for `charsetPrefix ++ _`
-- (or `utf8`) means decoding the string literal; `charsetPrefix_eq` gives the value where needed
attribute [local irreducible] charsetPrefix utf8

/-! ### the three shapes of a text

`charsetName`, `detectUnicode` and `fixEncoding` all look for the prefix `@charset "` and the first
quote after it: a text is a complete head, an open head (no closing quote yet) or does not start with
the prefix (`head_cases`), and on each shape the three functions have a closed form. -/

theorem quote_split (s : Text) :
    (∀ c ∈ s, c ≠ 34) ∨ ∃ n rest, s = n ++ 34 :: rest ∧ ∀ c ∈ n, c ≠ 34 := by
  induction s with
  | nil => exact .inl nofun
  | cons c s ih =>
    by_cases hc : c = 34
    · exact .inr ⟨[], s, by rw [hc]; rfl, nofun⟩
    · rcases ih with h | ⟨n, rest, rfl, h⟩
      · exact .inl (List.forall_mem_cons.mpr ⟨hc, h⟩)
      · exact .inr ⟨c :: n, rest, rfl, List.forall_mem_cons.mpr ⟨hc, h⟩⟩

theorem head_cases (t : Text) :
    (∃ n rest, t = charsetPrefix ++ n ++ 34 :: rest ∧ ∀ c ∈ n, c ≠ 34) ∨
    (∃ s, t = charsetPrefix ++ s ∧ ∀ c ∈ s, c ≠ 34) ∨ charsetPrefix.isPrefixOf t = false := by
  cases hp : charsetPrefix.isPrefixOf t with
  | false => exact .inr (.inr rfl)
  | true =>
    obtain ⟨s, rfl⟩ := List.isPrefixOf_iff_prefix.mp hp
    rcases quote_split s with h | ⟨n, rest, rfl, h⟩
    · exact .inr (.inl ⟨s, rfl, h⟩)
    · exact .inl ⟨n, rest, by simp, h⟩

theorem prefix_head (s : Text) : charsetPrefix.isPrefixOf (charsetPrefix ++ s) = true :=
  List.isPrefixOf_iff_prefix.mpr (List.prefix_append _ _)

theorem findIdx_first_quote (name rest : Text) (hq : ∀ c ∈ name, c ≠ 34) :
    (name ++ 34 :: rest).findIdx? (· == 34) = some name.length := by
  rw [List.findIdx?_append, List.findIdx?_eq_none_iff.mpr fun c hc => by simpa using hq c hc]
  simp [List.findIdx?_cons]

theorem findQuote_head (n rest : Text) (hq : ∀ c ∈ n, c ≠ 34) :
    findQuote (charsetPrefix ++ n ++ 34 :: rest) charsetPrefix.length = some (charsetPrefix.length + n.length) := by
  rw [findQuote, List.append_assoc, List.drop_left, findIdx_first_quote n rest hq]

theorem findQuote_open (s : Text) (hq : ∀ c ∈ s, c ≠ 34) :
    findQuote (charsetPrefix ++ s) charsetPrefix.length = none := by
  have : s.findIdx? (· == 34) = none := by simpa [List.findIdx?_eq_none_iff] using hq
  rw [findQuote, List.drop_left, this]

theorem take_head (n rest : Text) :
    ((charsetPrefix ++ n ++ 34 :: rest).take (charsetPrefix.length + n.length)).drop charsetPrefix.length = n := by
  rw [← List.length_append, List.take_left, List.drop_left]

section shapes
variable (n rest s t e : Text) (f : Bool)

theorem charsetName_head (hq : ∀ c ∈ n, c ≠ 34) : charsetName (charsetPrefix ++ n ++ 34 :: rest) = some n := by
  rw [charsetName, List.append_assoc, prefix_head, ← List.append_assoc, findQuote_head n rest hq]
  simp only [if_true, take_head]

theorem detectU_head (hq : ∀ c ∈ n, c ≠ 34) :
    detectUnicode (charsetPrefix ++ n ++ 34 :: rest) f = (some n, true) := by
  rw [detectUnicode, List.append_assoc, prefix_head, ← List.append_assoc, findQuote_head n rest hq]
  simp only [if_true, take_head]

theorem fix_head (hq : ∀ c ∈ n, c ≠ 34) :
    fixEncoding (charsetPrefix ++ n ++ 34 :: rest) e f = some (charsetPrefix ++ written e ++ 34 :: rest) := by
  have hl : (charsetPrefix ++ n ++ 34 :: rest).length > charsetPrefix.length := by
    simp only [List.length_append, List.length_cons]; omega
  rw [fixEncoding, List.append_assoc, prefix_head, ← List.append_assoc, findQuote_head n rest hq]
  simp only [hl, if_true, written]
  rw [← List.length_append, List.drop_left]

theorem charsetName_open (hq : ∀ c ∈ s, c ≠ 34) : charsetName (charsetPrefix ++ s) = none := by
  simp only [charsetName, prefix_head, findQuote_open s hq, if_true]

theorem detectU_open (hq : ∀ c ∈ s, c ≠ 34) : detectUnicode (charsetPrefix ++ s) f = (none, false) := by
  simp only [detectUnicode, prefix_head, findQuote_open s hq, if_true]

theorem fix_open (hq : ∀ c ∈ s, c ≠ 34) :
    fixEncoding (charsetPrefix ++ s) e f = if f then some (charsetPrefix ++ s) else none := by
  cases s with
  | nil =>
    have : charsetPrefix.isPrefixOf charsetPrefix = true := by simp
    simp [fixEncoding, this]
  | cons c s => simp [fixEncoding, prefix_head, findQuote_open _ hq]

theorem charsetName_nohead (h : charsetPrefix.isPrefixOf t = false) : charsetName t = none := by
  simp [charsetName, h]

theorem detectU_nohead (h : charsetPrefix.isPrefixOf t = false) :
    detectUnicode t f = if f || !(t.isPrefixOf charsetPrefix) then (some utf8, false) else (none, false) := by
  simp [detectUnicode, h]

theorem fix_nohead (h : charsetPrefix.isPrefixOf t = false) :
    fixEncoding t e f = if !(t.isPrefixOf charsetPrefix) || f then some t else none := by
  by_cases hl : t.length > charsetPrefix.length
  · have : t.isPrefixOf charsetPrefix = false := Bool.eq_false_iff.mpr fun hb =>
      absurd (List.isPrefixOf_iff_prefix.mp hb).length_le (Nat.not_le.mpr hl)
    simp [fixEncoding, hl, h, this]
  · simp [fixEncoding, hl]

end shapes

theorem diverge_append (q : Text) : ∀ (a p : Text), a.isPrefixOf p = false → p.isPrefixOf a = false →
    a.isPrefixOf (p ++ q) = false ∧ (p ++ q).isPrefixOf a = false
  | [], _, h, _ => by simp at h
  | _ :: _, [], _, h => by simp at h
  | x :: a, y :: p, h1, h2 => by
    by_cases hxy : x = y
    · subst hxy
      simpa using diverge_append q a p (by simpa using h1) (by simpa using h2)
    · simp [List.isPrefixOf, hxy, Ne.symm hxy]

def Undecided (p : Text) : Prop :=
  (∀ e, fixEncoding p e false = none) ∧ detectUnicode p false = (none, false)

theorem decided_cases (p : Text) :
    (∃ n rest, p = charsetPrefix ++ n ++ 34 :: rest ∧ ∀ c ∈ n, c ≠ 34) ∨
    (charsetPrefix.isPrefixOf p = false ∧ p.isPrefixOf charsetPrefix = false) ∨ Undecided p := by
  rcases head_cases p with h | ⟨s, rfl, hq⟩ | hp
  · exact .inl h
  · exact .inr (.inr ⟨fun e => by simp [fix_open s e false hq], detectU_open s false hq⟩)
  · cases hb : p.isPrefixOf charsetPrefix with
    | false => exact .inr (.inl ⟨hp, rfl⟩)
    | true =>
      exact .inr (.inr ⟨fun e => by simp [fix_nohead p e false hp, hb],
        by simp [detectU_nohead p false hp, hb]⟩)

theorem fix_stable (p q e : Text) (f : Bool) (t : Text) (h : fixEncoding p e false = some t) :
    fixEncoding (p ++ q) e f = some (t ++ q) := by
  rcases decided_cases p with ⟨n, rest, rfl, hq⟩ | ⟨hp, hpc⟩ | ⟨hn, _⟩
  · rw [fix_head n rest e false hq] at h
    rw [← Option.some.inj h, List.append_assoc, List.cons_append, fix_head n (rest ++ q) e f hq]
    simp
  · obtain ⟨h1, h2⟩ := diverge_append q _ p hp hpc
    rw [fix_nohead p e false hp, hpc] at h
    rw [fix_nohead _ e f h1, h2, ← Option.some.inj h]
    rfl
  · rw [hn e] at h; cases h

theorem fix_final (p e : Text) : (fixEncoding p e true).isSome = true := by
  rcases head_cases p with ⟨n, rest, rfl, hq⟩ | ⟨s, rfl, hq⟩ | hp
  · rw [fix_head n rest e true hq]; rfl
  · rw [fix_open s e true hq]; rfl
  · rw [fix_nohead p e true hp]; simp

theorem detectU_stable (p q : Text) (f : Bool) (h : (detectUnicode p false).1.isSome) :
    detectUnicode (p ++ q) f = detectUnicode p false := by
  rcases decided_cases p with ⟨n, rest, rfl, hq⟩ | ⟨hp, hpc⟩ | ⟨_, hn⟩
  · rw [List.append_assoc, List.cons_append, detectU_head n (rest ++ q) f hq, detectU_head n rest false hq]
  · obtain ⟨h1, h2⟩ := diverge_append q _ p hp hpc
    rw [detectU_nohead p false hp, hpc, detectU_nohead _ f h1, h2]
    simp
  · rw [hn] at h; cases h

theorem detectU_fix (p e2 : Text) (h : (detectUnicode p false).1.isSome) :
    (fixEncoding p e2 false).isSome = true := by
  rcases decided_cases p with ⟨n, rest, rfl, hq⟩ | ⟨hp, hpc⟩ | ⟨_, hn⟩
  · rw [fix_head n rest e2 false hq]; rfl
  · rw [fix_nohead p e2 false hp, hpc]; rfl
  · rw [hn] at h; cases h

theorem charsetName_stable (p q : Text) {n : Text} (h : charsetName p = some n) :
    charsetName (p ++ q) = some n := by
  rcases head_cases p with ⟨m, rest, rfl, hq⟩ | ⟨s, rfl, hq⟩ | hp
  · rw [charsetName_head m rest hq] at h
    rw [← h, List.append_assoc, List.cons_append, charsetName_head m (rest ++ q) hq]
  · rw [charsetName_open s hq] at h; cases h
  · rw [charsetName_nohead p hp] at h; cases h

/-! ### `detectencoding_str`: candidates only shrink, and a decision is never revised -/

theorem patOK_prefix (ps : List (Option Nat)) (p q : Bytes) (h : patOK ps (p ++ q) = true) : patOK ps p = true := by
  fun_induction patOK ps p with
  | case1 => rfl
  | case2 => rfl
  | case3 ps b bs ih => exact ih h
  | case4 x ps b bs ih =>
    simp only [List.cons_append, patOK, Bool.and_eq_true] at h ⊢
    exact ⟨h.1, ih h.2⟩

theorem patOK_wild : ∀ (ps : List (Option Nat)) (q : Bytes), (∀ x ∈ ps, x = none) → patOK ps q = true
  | [], _, _ => by simp [patOK]
  | _ :: _, [], _ => by simp [patOK]
  | x :: ps, b :: bs, h => by
    obtain rfl := h x List.mem_cons_self
    exact patOK_wild ps bs fun y hy => h y (List.mem_cons_of_mem _ hy)

theorem patOK_append_none (ps : List (Option Nat)) (p q : Bytes) (h : patOK ps p = true)
    (hn : ∀ x ∈ ps.drop p.length, x = none) : patOK ps (p ++ q) = true := by
  fun_induction patOK ps p with
  | case1 => simp [patOK]
  | case2 ps _ => exact patOK_wild ps q (by simpa using hn)
  | case3 ps b bs ih => exact ih h (by simpa using hn)
  | case4 x ps b bs ih =>
    simp only [List.cons_append, patOK, Bool.and_eq_true] at h ⊢
    exact ⟨h.1, ih h.2 (by simpa using hn)⟩

theorem patOK_long (ps : List (Option Nat)) (p q : Bytes) (h : ps.length ≤ p.length) :
    patOK ps (p ++ q) = patOK ps p :=
  Bool.eq_iff_iff.mpr ⟨patOK_prefix ps p q, fun hp =>
    patOK_append_none ps p q hp (by simp [List.drop_eq_nil_of_le h])⟩

theorem compat_long (c : Cand) (p q : Bytes) (h : 4 ≤ p.length) : compat c (p ++ q) = compat c p := by
  unfold compat
  rw [patOK_long _ _ _ (by cases c <;> exact h)]
  have h1 : ((p ++ q).drop 2).take 2 = (p.drop 2).take 2 := by
    rw [List.drop_append_of_le_length (by omega), List.take_append_of_le_length (by simp; omega)]
  have h2 : (decide ((p ++ q).length ≥ 4)) = true := by simp; omega
  have h3 : (decide (p.length ≥ 4)) = true := by simp; omega
  rw [h1, h2, h3]

theorem compat_mono (c : Cand) (p q : Bytes) (h : compat c (p ++ q) = true) : compat c p = true := by
  by_cases hl : 4 ≤ p.length
  · rw [compat_long c p q hl] at h; exact h
  · unfold compat at h ⊢
    simp only [Bool.and_eq_true, Bool.not_eq_true'] at h ⊢
    refine ⟨patOK_prefix _ _ _ h.1, ?_⟩
    have : decide (p.length ≥ 4) = false := by simp; omega
    simp [this]

theorem cands_sublist (p q : Bytes) : (cands (p ++ q)).Sublist (cands p) := by
  unfold cands
  have : allCands.filter (fun c => compat c (p ++ q)) =
      (allCands.filter (fun c => compat c p)).filter (fun c => compat c (p ++ q)) := by
    rw [List.filter_filter]
    apply List.filter_congr
    intro c _
    cases h : compat c (p ++ q) with
    | false => simp
    | true => simp [compat_mono c p q h]
  rw [this]
  exact List.filter_sublist

theorem cands_long (p q : Bytes) (h : 4 ≤ p.length) : cands (p ++ q) = cands p := by
  unfold cands
  apply List.filter_congr
  intro c _
  exact compat_long c p q h

theorem mem_cands (c : Cand) (p : Bytes) : c ∈ cands p ↔ compat c p = true := by
  have : c ∈ allCands := by cases c <;> decide
  simp [cands, this]

theorem pat_wild (c : Cand) : ∀ x ∈ (pat c).drop (need c), x = none := by cases c <;> decide

theorem utf32_of_utf16 (b : Bytes) (h : patOK (pat .utf16asLE) b = true) (h0 : (b.drop 2).take 2 = [0, 0]) :
    compat .utf32asLE b = true := by
  match b, h0 with
  | a :: b :: c :: d :: r, h0 =>
    obtain ⟨rfl, rfl⟩ : c = 0 ∧ d = 0 := by simpa using h0
    simpa [compat, pat, patOK] using h

theorem compat_extend {c : Cand} {p : Bytes} (q : Bytes) (hc : cands p = [c]) (hn : need c ≤ p.length) :
    compat c (p ++ q) = true := by
  have hcp : compat c p = true := (mem_cands c p).mp (by simp [hc])
  rw [compat, Bool.and_eq_true] at hcp
  have hpat := patOK_append_none (pat c) p q hcp.1 fun x hx =>
    pat_wild c x ((List.drop_sublist_drop_left _ hn).subset hx)
  rw [compat, hpat, Bool.true_and]
  cases hx : (c == .utf16asLE && decide ((p ++ q).length ≥ 4) && ((p ++ q).drop 2).take 2 == [0, 0]) with
  | false => rfl
  | true =>
    -- FF FE 00 00 would have left the UTF-32 candidate in as well
    simp only [Bool.and_eq_true, beq_iff_eq] at hx
    obtain ⟨⟨rfl, _⟩, h0⟩ := hx
    have := (mem_cands _ p).mpr (compat_mono _ p q (utf32_of_utf16 _ hpat h0))
    rw [hc] at this
    cases List.mem_singleton.mp this

theorem detect_stable (p q : Bytes) (f : Bool) (e : Text) (x : Bool)
    (h : detectStr p false = (some e, x)) : detectStr (p ++ q) f = (some e, x) := by
  have hsub := cands_sublist p q
  unfold detectStr at h ⊢
  simp only [Bool.false_eq_true, if_false] at h
  match hc : cands p with
  | [] =>
    rw [hc] at h hsub
    rw [List.sublist_nil.mp hsub]
    exact h
  | _ :: _ :: _ => rw [hc] at h; cases h
  | [c] =>
    rw [hc] at h hsub
    by_cases hn : p.length ≥ need c
    · have hnq : (p ++ q).length ≥ need c := by rw [List.length_append]; omega
      rw [hsub.eq_of_length_le (List.length_pos_of_mem ((mem_cands c _).mpr (compat_extend q hc hn)))]
      simp only [hn, hnq, if_true] at h ⊢
      cases hcs : c == Cand.charset with
      | false =>
        simp only [hcs, Bool.false_eq_true, if_false] at h ⊢
        exact h
      | true =>
        simp only [hcs, if_true] at h ⊢
        cases hcn : charsetName p with
        | none => rw [hcn] at h; cases h
        | some n => rw [charsetName_stable p q hcn]; rw [hcn] at h; exact h
    · simp only [hn, if_false] at h; cases h

theorem detect_decided (p q : Bytes) (f : Bool) (h : (detectStr p false).1.isSome) :
    detectStr (p ++ q) f = detectStr p false := by
  obtain ⟨e, he⟩ := Option.isSome_iff_exists.mp h
  have hx : detectStr p false = (some e, (detectStr p false).2) := Prod.ext he rfl
  rw [detect_stable p q f e _ hx, ← hx]

theorem detect_single {b : Bytes} {c : Cand} (f : Bool) (hc : cands b = [c]) (hn : need c ≤ b.length)
    (hcs : (c == .charset) = false) : detectStr b f = (some (candName c).1, (candName c).2) := by
  unfold detectStr
  rw [hc]
  simp only [ge_iff_le, hn, if_true, hcs, Bool.false_eq_true, if_false]

theorem detect_head (name rest : Bytes) (f : Bool) (hq : ∀ c ∈ name, c ≠ 34) :
    detectStr (charsetPrefix ++ name ++ 34 :: rest) f = (some name, true) := by
  have hc : cands (charsetPrefix ++ name ++ 34 :: rest) = [.charset] := by
    rw [charsetPrefix_eq]
    exact cands_long [64, 99, 104, 97] _ (by decide)
  have hl : (charsetPrefix ++ name ++ 34 :: rest).length ≥ need .charset := by
    rw [charsetPrefix_eq]; simp [need]
  unfold detectStr
  rw [hc]
  simp only [hl, if_true, charsetName_head name rest hq]
  rfl

theorem detect_bom (t : Bytes) (f : Bool) :
    detectStr (0xEF :: 0xBB :: 0xBF :: t) f = (some (ofStr "utf-8-sig"), true) :=
  detect_single f (c := .utf8sig) (by cases t <;> rfl) (by simp [need]) rfl

theorem detect_cands_nil {b : Bytes} (f : Bool) (h : cands b = []) : detectStr b f = (some utf8, false) := by
  unfold detectStr
  rw [h]

/-- a first byte that no pattern starts with rules every candidate out -/
theorem cands_first (c : Nat) (h128 : c < 128) (h0 : c ≠ 0) (h64 : c ≠ 64) : cands [c] = [] := by
  have e1 : (0xEF == c) = false := by simp; omega
  have e2 : (0xFF == c) = false := by simp; omega
  have e3 : (0xFE == c) = false := by simp; omega
  have e4 : (64 == c) = false := by simp; omega
  have e5 : (0 == c) = false := by simp; omega
  simp [cands, allCands, compat, pat, patOK, e1, e2, e3, e4, e5]

/-! ### chunking invariance of the incremental decoder -/

/-- what the css codec assumes of Python's own incremental decoders -/
structure DecLaw (I : Inner) : Prop where
  split : ∀ (d : I.D) (a b : Bytes) (f : Bool) (t1 : Text) (d1 : I.D),
    I.dec d a false = some (t1, d1) →
      I.dec d (a ++ b) f = (I.dec d1 b f).map (fun r => (t1 ++ r.1, r.2))
  fail : ∀ (d : I.D) (a b : Bytes) (f : Bool), I.dec d a false = none → I.dec d (a ++ b) f = none

/-- go on with `k` from the state `x` ended in, outputs concatenated -/
def andThen {α σ : Type} (x : Except CErr (List α × σ)) (k : σ → Except CErr (List α × σ)) :
    Except CErr (List α × σ) :=
  match x with
  | .error e => .error e
  | .ok (o1, s1) =>
    match k s1 with
    | .error e => .error e
    | .ok (o2, s2) => .ok (o1 ++ o2, s2)

theorem andThen_nil {α σ : Type} (s : σ) (k : σ → Except CErr (List α × σ)) : andThen (.ok ([], s)) k = k s := by
  rw [andThen]
  cases k s with
  | error e => rfl
  | ok r => cases r; rfl

theorem decStep_running {I : Inner} {st : DecSt I} {d : I.D} (hd : st.decoder = some d) (x : Bytes) (f : Bool) :
    decStep I st x f = decRun I st d x f := by
  simp only [decStep, hd]

/-- what `decStep` does once the encoding is chosen -/
def decStart (I : Inner) (st : DecSt I) (enc : Text) (inp : Bytes) (f : Bool) : Except CErr (Text × DecSt I) :=
  if !I.known enc then .error .lookup
  else decRun I { st with encoding := some enc, bbuf := [] } (I.dinit enc) inp f

section equations
variable {I : Inner} {st : DecSt I} {x : Bytes} {f : Bool}

theorem decStep_err {e : CErr} (hd : st.decoder = none)
    (h : chooseFrom st.encoding st.force (detectStr (st.bbuf ++ x) f) = .error e) :
    decStep I st x f = .error e := by
  simp only [decStep, hd, h]

theorem decStep_wait (hd : st.decoder = none)
    (h : chooseFrom st.encoding st.force (detectStr (st.bbuf ++ x) f) = .ok none) :
    decStep I st x f = .ok ([], { st with bbuf := st.bbuf ++ x }) := by
  simp only [decStep, hd, h]

theorem decStep_go {enc : Text} (hd : st.decoder = none)
    (h : chooseFrom st.encoding st.force (detectStr (st.bbuf ++ x) f) = .ok (some enc)) :
    decStep I st x f = decStart I st enc (st.bbuf ++ x) f := by
  simp only [decStep, decStart, hd, h]

end equations

theorem decHeader_decoder (I : Inner) (st1 : DecSt I) (d' : I.D) (out : Text) (f : Bool) :
    (decHeader I st1 d' out f).2.decoder = some d' := by
  unfold decHeader
  split
  · rfl
  · split <;> rfl

theorem decHeader_merge (I : Inner) (st1 : DecSt I) (d1 d2 : I.D) (o1 o2 : Text) (f : Bool) :
    ((decHeader I st1 d1 o1 false).1 ++ (decHeader I (decHeader I st1 d1 o1 false).2 d2 o2 f).1,
     (decHeader I (decHeader I st1 d1 o1 false).2 d2 o2 f).2) = decHeader I st1 d2 (o1 ++ o2) f := by
  unfold decHeader
  cases hf : st1.headerfixed with
  | true => simp
  | false =>
    simp only [Bool.false_eq_true, if_false]
    cases h1 : fixEncoding (st1.tbuf ++ o1) (st1.encoding.getD utf8) false with
    | none =>
      simp only [Bool.false_eq_true, if_false, List.nil_append, List.append_assoc]
    | some o =>
      have h2 := fix_stable (st1.tbuf ++ o1) o2 (st1.encoding.getD utf8) f o h1
      rw [List.append_assoc] at h2
      simp [h2]

theorem decRun_ok_decoder (I : Inner) (st1 : DecSt I) (d : I.D) (a : Bytes) (f : Bool) (o : Text)
    (s : DecSt I) (h : decRun I st1 d a f = .ok (o, s)) : ∃ d', s.decoder = some d' := by
  unfold decRun at h
  cases h1 : I.dec d a f with
  | none => rw [h1] at h; cases h
  | some x =>
    rw [h1] at h
    exact ⟨x.2, (congrArg (·.2.decoder) (Except.ok.inj h)).symm.trans (decHeader_decoder I st1 x.2 x.1 f)⟩

theorem decRun_merge {I : Inner} (law : DecLaw I) (st1 : DecSt I) (d : I.D) (a b : Bytes) (f : Bool) :
    andThen (decRun I st1 d a false) (decStep I · b f) = decRun I st1 d (a ++ b) f := by
  unfold decRun
  cases h1 : I.dec d a false with
  | none => rw [law.fail d a b f h1]; rfl
  | some x =>
    obtain ⟨t1, d1⟩ := x
    have hdec := decHeader_decoder I st1 d1 t1 false
    have hm := fun d2 o2 => decHeader_merge I st1 d1 d2 t1 o2 f
    rw [law.split d a b f t1 d1 h1]
    dsimp only
    generalize decHeader I st1 d1 t1 false = r at hdec hm
    obtain ⟨o1, s1⟩ := r
    simp only [andThen, decStep_running hdec, decRun]
    cases I.dec d1 b f with
    | none => rfl
    | some r2 => simp only [Option.map_some, ← hm]

theorem chooseFrom_stable (encoding : Option Text) (force : Bool) (p q : Bytes) (f : Bool)
    (h : chooseFrom encoding force (detectStr p false) ≠ .ok none) :
    chooseFrom encoding force (detectStr (p ++ q) f) = chooseFrom encoding force (detectStr p false) := by
  cases hd : (detectStr p false).1 with
  | some e => rw [detect_decided p q f (by rw [hd]; rfl)]
  | none =>
    unfold chooseFrom at h ⊢
    cases hnd : (encoding.isNone || !force) with
    | true => simp [hnd, hd] at h
    | false => rfl

theorem decStart_merge {I : Inner} (law : DecLaw I) (st : DecSt I) (enc : Text) (a b : Bytes) (f : Bool) :
    andThen (decStart I st enc a false) (decStep I · b f) = decStart I st enc (a ++ b) f := by
  unfold decStart
  cases I.known enc with
  | false => rfl
  | true => exact decRun_merge law _ _ a b f

theorem twoSteps_eq {I : Inner} (law : DecLaw I) (st : DecSt I) (a b : Bytes) (f : Bool) :
    andThen (decStep I st a false) (decStep I · b f) = decStep I st (a ++ b) f := by
  cases hd : st.decoder with
  | some d => rw [decStep_running hd, decStep_running hd, decRun_merge law]
  | none =>
    -- a choice made on `bbuf ++ a` is the choice on `bbuf ++ (a ++ b)`
    have hst := chooseFrom_stable st.encoding st.force (st.bbuf ++ a) b f
    rw [List.append_assoc] at hst
    cases hch : chooseFrom st.encoding st.force (detectStr (st.bbuf ++ a) false) with
    | error e =>
      rw [decStep_err hd hch, decStep_err hd ((hst (by rw [hch]; nofun)).trans hch)]
      rfl
    | ok oenc =>
      cases oenc with
      | none =>
        -- buffered: the second step sees bbuf ++ a ++ b, exactly like the single step
        rw [decStep_wait hd hch, andThen_nil]
        simp only [decStep, hd, List.append_assoc]
      | some enc =>
        rw [decStep_go hd hch, decStep_go hd ((hst (by rw [hch]; nofun)).trans hch), ← List.append_assoc]
        exact decStart_merge law st enc (st.bbuf ++ a) b f

theorem decFeed_eq {I : Inner} (law : DecLaw I) :
    ∀ (cs : List Bytes) (st : DecSt I), decFeed I st cs = decStep I st cs.flatten true
  | [], _ => rfl
  | c :: cs, st => by
    rw [List.flatten_cons, ← twoSteps_eq law, decFeed, andThen.eq_def]
    cases decStep I st c false with
    | error e => rfl
    | ok r =>
      obtain ⟨o, st'⟩ := r
      simp only [decFeed_eq law cs st']
      cases decStep I st' cs.flatten true <;> rfl

theorem detect_final (b : Bytes) : ∃ e x, detectStr b true = (some e, x) := by
  unfold detectStr
  simp only [if_true]
  split
  · exact ⟨_, _, rfl⟩
  · split
    · split
      · split
        · exact ⟨_, _, rfl⟩
        · split <;> exact ⟨_, _, rfl⟩
      · exact ⟨_, _, rfl⟩
    · split <;> exact ⟨_, _, rfl⟩
  · split <;> exact ⟨_, _, rfl⟩

theorem decStart_oneshot (I : Inner) (enc : Option Text) (force : Bool) (e : Text) (all : Bytes) :
    (decStart I (decInit I enc force) e all true).map (·.1) = decodeWith I e all := by
  unfold decStart decodeWith decInit
  cases I.known e with
  | false => rfl
  | true =>
    simp only [Bool.not_true, Bool.false_eq_true, if_false, decRun, decHeader, Inner.decodeAll]
    cases I.dec (I.dinit e) all true with
    | none => rfl
    | some r =>
      have hfix := fix_final r.1 e
      simp only [Option.map_some, List.nil_append, Option.getD_some]
      cases hf : fixEncoding r.1 e true with
      | none => rw [hf] at hfix; cases hfix
      | some o => rfl

theorem decStep_oneshot (I : Inner) (all : Bytes) (enc : Option Text) (force : Bool) :
    (decStep I (decInit I enc force) all true).map (·.1) = decode I all enc force := by
  -- the incremental decoder starts on the encoding it settles on, or refuses the css codec's own name
  have go : ∀ c, chooseFrom enc force (detectStr all true) = .ok (some c) →
      (decStep I (decInit I enc force) all true).map (·.1) = decodeWith I c all := fun c hc => by
    rw [decStep_go (st := decInit I enc force) (x := all) rfl hc]
    exact decStart_oneshot I enc force c all
  have refuse : chooseFrom enc force (detectStr all true) = .error .value →
      (decStep I (decInit I enc force) all true).map (·.1) = .error .value := fun hc => by
    rw [decStep_err (st := decInit I enc force) (x := all) rfl hc]
    rfl
  obtain ⟨de, x, hd⟩ := detect_final all
  rw [hd] at go refuse
  unfold decode
  rw [hd]
  cases enc with
  | some e =>
    cases force with
    | true => exact (go e rfl).trans (by simp)
    | false =>
      cases hcss : isCss de with
      | true => exact (refuse (by simp [chooseFrom, hcss])).trans (by simp [hcss])
      | false =>
        cases x with
        | true => exact (go de (by simp [chooseFrom, hcss])).trans (by simp [hcss])
        | false => exact (go e (by simp [chooseFrom, hcss])).trans (by simp [hcss])
  | none =>
    cases hcss : isCss de with
    | true => exact (refuse (by simp [chooseFrom, hcss])).trans (by simp [hcss])
    | false => exact (go de (by simp [chooseFrom, hcss])).trans (by simp [hcss])

end CssVerif.Codec
