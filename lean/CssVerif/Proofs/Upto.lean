import CssVerif.Model.Upto
namespace CssVerif.Upto

def isOpen : TK → Bool
  | .lbrace | .lbracket | .lparen | .func => true
  | _ => false

def isClose : TK → Bool
  | .rbrace | .rbracket | .rparen => true
  | _ => false

def isAtom (t : TK) : Bool := !isOpen t && !isClose t && t != .eof

def pairs : TK → TK → Bool
  | .lbrace, .rbrace => true
  | .lbracket, .rbracket => true
  | .lparen, .rparen => true
  | .func, .rparen => true
  | _, _ => false

/-- `()`, `[]`, `{}` nest properly (FUNCTION counts as `(`), no EOF -/
inductive Bal : List TK → Prop
  | nil : Bal []
  | atom (t : TK) (rest : List TK) : isAtom t = true → Bal rest → Bal (t :: rest)
  | group (o c : TK) (inner rest : List TK) : pairs o c = true → Bal inner → Bal rest →
      Bal (o :: (inner ++ c :: rest))

def Inside (c : Cnt) : Prop := 0 ≤ c.brace ∧ 0 ≤ c.bracket ∧ 0 ≤ c.paren ∧ 0 < c.brace + c.bracket + c.paren

theorem inside_not_stops {m : Mode} {c : Cnt} {t : TK} (h : Inside c) : stops m c t = false := by
  obtain ⟨h1, h2, h3, h4⟩ := h
  have hz : c.zero = false := by
    simp only [Cnt.zero, Bool.and_eq_false_imp, Bool.and_eq_true, beq_iff_eq, beq_eq_false_iff_ne]; omega
  have hb : (c.brace == -1) = false := beq_eq_false_iff_ne.2 (by omega)
  simp [stops, hz, hb]

theorem Inside.nonneg {c : Cnt} (h : Inside c) : 0 ≤ c.brace ∧ 0 ≤ c.bracket ∧ 0 ≤ c.paren :=
  ⟨h.1, h.2.1, h.2.2.1⟩

theorem bump_atom {c : Cnt} {t : TK} (h : isAtom t = true) : bump c t = c := by
  unfold bump; split <;> first | rfl | cases h

theorem inside_bump_open {c : Cnt} {o : TK} (ho : isOpen o = true)
    (h : 0 ≤ c.brace ∧ 0 ≤ c.bracket ∧ 0 ≤ c.paren) : Inside (bump c o) := by
  obtain ⟨h1, h2, h3⟩ := h
  unfold isOpen at ho
  split at ho <;> first | (simp only [bump, Inside]; omega) | cases ho

theorem pairs_cases {o c : TK} (h : pairs o c = true) :
    (o = .lbrace ∧ c = .rbrace) ∨ (o = .lbracket ∧ c = .rbracket) ∨ ((o = .lparen ∨ o = .func) ∧ c = .rparen) := by
  unfold pairs at h
  split at h
  · exact .inl ⟨rfl, rfl⟩
  · exact .inr (.inl ⟨rfl, rfl⟩)
  · exact .inr (.inr ⟨.inl rfl, rfl⟩)
  · exact .inr (.inr ⟨.inr rfl, rfl⟩)
  · cases h

theorem bump_pairs {c : Cnt} {o cl : TK} (h : pairs o cl = true) : bump (bump c o) cl = c := by
  rcases pairs_cases h with ⟨rfl, rfl⟩ | ⟨rfl, rfl⟩ | ⟨rfl | rfl, rfl⟩ <;> simp [bump, Int.add_sub_cancel]

theorem pairs_open {o c : TK} (h : pairs o c = true) : isOpen o = true := by
  rcases pairs_cases h with ⟨rfl, -⟩ | ⟨rfl, -⟩ | ⟨rfl | rfl, -⟩ <;> rfl

theorem pairs_ne_eof {o c : TK} (h : pairs o c = true) : o ≠ .eof ∧ c ≠ .eof := by
  rcases pairs_cases h with ⟨rfl, rfl⟩ | ⟨rfl, rfl⟩ | ⟨rfl | rfl, rfl⟩ <;> exact ⟨nofun, nofun⟩

theorem atom_ne_eof {t : TK} (h : isAtom t = true) : t ≠ .eof := fun e => by rw [e] at h; cases h

theorem group_append (o c : TK) (inner rest' rest : List TK) :
    (o :: (inner ++ c :: rest')) ++ rest = o :: (inner ++ c :: (rest' ++ rest)) := by simp

theorem scan_inside (m : Mode) (seg : List TK) (hb : Bal seg) :
    ∀ (c : Cnt) (rest : List TK), Inside c →
      scan m c (seg ++ rest) = (seg ++ (scan m c rest).1, (scan m c rest).2) := by
  induction hb with
  | nil => intro c rest _; simp
  | atom t rest' ha _ ih =>
    intro c rest hc
    have hne := atom_ne_eof ha
    simp only [List.cons_append, scan, hne, if_false, bump_atom ha, inside_not_stops hc,
      Bool.false_eq_true]
    rw [ih c rest hc]
  | group o cl inner rest' hm _ _ ih1 ih2 =>
    intro c rest hc
    obtain ⟨ho, hcl⟩ := pairs_ne_eof hm
    have hin : Inside (bump c o) := inside_bump_open (pairs_open hm) hc.nonneg
    rw [group_append]
    simp only [scan, ho, if_false, inside_not_stops hin, Bool.false_eq_true]
    rw [ih1 (bump c o) (cl :: (rest' ++ rest)) hin]
    simp only [scan, hcl, if_false, bump_pairs hm, inside_not_stops hc, Bool.false_eq_true]
    rw [ih2 c rest hc]
    simp

/-! ### the prelude of a statement: balanced, nothing at depth 0 that ends it -/

inductive Prel (m : Mode) : List TK → Prop
  | nil : Prel m []
  | atom (t : TK) (rest : List TK) : isAtom t = true → endTok m t = false → Prel m rest → Prel m (t :: rest)
  | group (o c : TK) (inner rest : List TK) : pairs o c = true → endTok m c = false → endTok m o = false →
      Bal inner → Prel m rest → Prel m (o :: (inner ++ c :: rest))

def origin : Cnt := ⟨0, 0, 0⟩

theorem origin_stops {m : Mode} {t : TK} (hmq : m.mq = false) : stops m origin t = endTok m t := by
  simp [stops, origin, Cnt.zero, hmq]

theorem scan_prel (m : Mode) (hmq : m.mq = false) (seg : List TK) (hp : Prel m seg) (rest : List TK) :
    scan m origin (seg ++ rest) = (seg ++ (scan m origin rest).1, (scan m origin rest).2) := by
  induction hp with
  | nil => simp
  | atom t rest' ha he _ ih =>
    have hne := atom_ne_eof ha
    simp only [List.cons_append, scan, hne, if_false, bump_atom ha, origin_stops hmq, he,
      Bool.false_eq_true]
    rw [ih]
  | group o cl inner rest' hm he heo hbal _ ih =>
    obtain ⟨ho, hcl⟩ := pairs_ne_eof hm
    have hin : Inside (bump origin o) := inside_bump_open (pairs_open hm) (by simp [origin])
    rw [group_append]
    simp only [scan, ho, if_false, inside_not_stops hin, Bool.false_eq_true]
    rw [scan_inside m inner hbal (bump origin o) (cl :: (rest' ++ rest)) hin]
    simp only [scan, hcl, if_false, bump_pairs hm, origin_stops hmq, he, Bool.false_eq_true]
    rw [ih]
    simp

inductive Stmt : List TK → Prop
  | semi (seg : List TK) : Prel default seg → Stmt (seg ++ [.semi])
  | block (seg inner : List TK) : Prel default seg → Bal inner → Stmt (seg ++ .lbrace :: (inner ++ [.rbrace]))

theorem scan_semi (m : Mode) (hm : .semi ∈ m.ends) (rest : List TK) :
    scan m origin (.semi :: rest) = ([.semi], rest) := by
  simp [scan, stops, endTok, origin, bump, Cnt.zero, hm]

theorem scan_block (inner : List TK) (hb : Bal inner) (rest : List TK) :
    scan default origin (.lbrace :: (inner ++ .rbrace :: rest)) = (.lbrace :: (inner ++ [.rbrace]), rest) := by
  have hin : Inside (bump origin .lbrace) := by simp [bump, origin, Inside]
  simp only [scan, if_false, inside_not_stops hin, Bool.false_eq_true,
    show (TK.lbrace = TK.eof) = False by simp]
  rw [scan_inside default inner hb _ _ hin]
  simp [scan, bump, origin, stops, Cnt.zero, default, endTok]

theorem scan_stmt (st : List TK) (hs : Stmt st) (rest : List TK) :
    scan default origin (st ++ rest) = (st, rest) := by
  cases hs with
  | semi seg hp =>
    rw [List.append_assoc, scan_prel default rfl seg hp]
    simp [scan_semi default (by decide)]
  | block seg inner hp hb =>
    rw [List.append_assoc, scan_prel default rfl seg hp]
    rw [group_append, List.nil_append, scan_block inner hb rest]

def Mode.plain (m : Mode) : Bool := !m.mq && !m.attrStart && m.brace0 == 0 && m.paren0 == 0

/-- the productions pass the start token separately: same result, unless it is an end token or a closing bracket -/
theorem upto_eq_scan (m : Mode) (s : TK) (toks : List TK) (hm : m.plain = true)
    (he : endTok m s = false) (hc : isClose s = false) (hne : s ≠ .eof) :
    upto true m (some s) toks = scan m origin (s :: toks) := by
  simp only [Mode.plain, Bool.and_eq_true, Bool.not_eq_true', beq_iff_eq] at hm
  obtain ⟨⟨⟨hmq, hattr⟩, hb0⟩, hp0⟩ := hm
  have hi : initCnt m (some s) = origin := by simp [initCnt, hattr, hb0, hp0, origin]
  have hb : bumpStart true origin s = bump origin s := by cases s <;> first | rfl | cases hc
  simp only [upto, hi, hb, scan, hne, if_false]
  have hst : stops m (bump origin s) s = false := by
    by_cases ho : isOpen s = true
    · exact inside_not_stops (inside_bump_open ho (by simp [origin]))
    · have ha : isAtom s = true := by simp [isAtom, ho, hc, hne]
      rw [bump_atom ha, origin_stops hmq, he]
  simp [hst]

/-- first token of a statement: what `upto_eq_scan` needs -/
def goodStart (s : TK) : Bool := !endTok default s && !isClose s && s != .eof

theorem upto_stmt (s : TK) (tail rest : List TK) (hs : Stmt (s :: tail)) (hg : goodStart s = true) :
    upto true default (some s) (tail ++ rest) = (s :: tail, rest) := by
  simp only [goodStart, Bool.and_eq_true, Bool.not_eq_true', bne_iff_ne, ne_eq] at hg
  rw [upto_eq_scan default s _ rfl hg.1.1 hg.1.2 hg.2]
  exact scan_stmt (s :: tail) hs rest

theorem Prel.goodStart {s : TK} {tail : List TK} (hp : Prel default (s :: tail)) : goodStart s = true := by
  generalize he : s :: tail = l at hp
  cases hp with
  | nil => cases he
  | atom t rest ha hend _ =>
    cases he
    have := atom_ne_eof ha
    simp only [isAtom, Bool.and_eq_true, Bool.not_eq_true'] at ha
    simp [Upto.goodStart, hend, ha.1.2, this]
  | group o c inner rest hm _ hend _ _ =>
    cases he
    rcases pairs_cases hm with ⟨rfl, -⟩ | ⟨rfl, -⟩ | ⟨rfl | rfl, -⟩ <;> simp [Upto.goodStart, hend, isClose]

/-- a statement starts with a token `upto` can be handed as start token — unless it is the lone `;` -/
theorem Stmt.goodStart {s : TK} {tail : List TK} (hs : Stmt (s :: tail)) (hne : s ≠ .semi) : goodStart s = true := by
  generalize he : s :: tail = l at hs
  cases hs with
  | semi seg hp =>
    cases seg with
    | nil => cases he; exact absurd rfl hne
    | cons t seg => cases he; exact hp.goodStart
  | block seg inner hp _ =>
    cases seg with
    | nil => cases he; rfl
    | cons t seg => cases he; exact hp.goodStart
theorem scan_rest_le (m : Mode) (toks : List TK) : ∀ c, (scan m c toks).2.length ≤ toks.length := by
  induction toks with
  | nil => intro c; simp [scan]
  | cons t ts ih =>
    intro c
    simp only [scan]
    split
    · simp
    · split
      · simp
      · have := ih (bump c t); simp only [List.length_cons]; omega

theorem upto_rest_le (fx : Bool) (m : Mode) (start : Option TK) (toks : List TK) :
    (upto fx m start toks).2.length ≤ toks.length := by
  cases start <;> exact scan_rest_le m toks _

theorem upto_rest_lt {fx : Bool} {m : Mode} {start : Option TK} {toks : List TK} {n : Nat} (h : toks.length < n) :
    (upto fx m start toks).2.length < n := Nat.lt_of_le_of_lt (upto_rest_le ..) h

/-- enough fuel is enough: every recursive call is on the tokens left, or on what `upto` leaves of them -/
theorem split_fuel (fx : Bool) (f1 f2 : Nat) (toks : List TK) (h1 : toks.length < f1) (h2 : toks.length < f2) :
    split fx f1 toks = split fx f2 toks := by
  fun_induction split fx f1 toks generalizing f2
  case case1 => exact absurd h1 (Nat.not_lt_zero _)
  case case2 => cases f2 <;> rfl
  all_goals
    cases f2 with
    | zero => exact absurd h2 (Nat.not_lt_zero _)
    | succ f2 =>
      replace h1 := Nat.lt_of_succ_lt_succ h1
      replace h2 := Nat.lt_of_succ_lt_succ h2
      simp only [split, *, if_true, if_false]
      try (rename_i ih; first
        | exact congrArg _ (ih f2 h1 h2)
        | exact congrArg _ (ih f2 (upto_rest_lt h1) (upto_rest_lt h2)))

/-- what the loop sees: single tokens (S, CDO, CDC, COMMENT) and whole statements -/
inductive Item : List TK → Prop
  | single (t : TK) : single t = true → Item [t]
  | stmt (s : TK) (tail : List TK) : goodStart s = true → single s = false → Stmt (s :: tail) → Item (s :: tail)

/-- what is handed to a production for an item -/
def out (it : List TK) : List (List TK) :=
  match it with
  | [t] => if single t then (if t = .comment then [[t]] else []) else [it]
  | _ => [it]

theorem splitAll_item (it : List TK) (hi : Item it) (rest : List TK) :
    splitAll true (it ++ rest) = out it ++ splitAll true rest := by
  cases hi with
  | single t ht =>
    have hne : t ≠ .eof := fun e => by rw [e] at ht; cases ht
    simp only [splitAll, List.cons_append, List.nil_append, List.length_cons, split, hne, if_false, ht, if_true, out]
  | stmt s tail hg hs hst =>
    have hne : s ≠ .eof := by
      simp only [goodStart, Bool.and_eq_true, bne_iff_ne, ne_eq] at hg; exact hg.2
    have hout : out (s :: tail) = [s :: tail] := by
      cases tail with
      | nil => simp [out, hs]
      | cons _ _ => simp [out]
    simp only [splitAll, List.cons_append, List.length_cons, split, hne, if_false, hs, Bool.false_eq_true]
    rw [upto_stmt s tail rest hst hg, hout]
    simp only [List.singleton_append, List.cons.injEq, true_and]
    exact split_fuel true _ _ rest (by simp; omega) (Nat.lt_succ_self _)

/-- **the statement loop is a homomorphism over items** -/
theorem splitAll_items (items : List (List TK)) (h : ∀ it ∈ items, Item it) (rest : List TK) :
    splitAll true (items.flatten ++ rest) = items.flatMap out ++ splitAll true rest := by
  induction items with
  | nil => simp
  | cons it items ih =>
    simp only [List.flatten_cons, List.append_assoc, List.flatMap_cons]
    rw [splitAll_item it (h it (List.mem_cons_self ..)), ih (fun x hx => h x (List.mem_cons_of_mem _ hx))]

theorem dsplit_fuel (fx : Bool) (f1 f2 : Nat) (toks : List TK) (h1 : toks.length < f1) (h2 : toks.length < f2) :
    dsplit fx f1 toks = dsplit fx f2 toks := by
  fun_induction dsplit fx f1 toks generalizing f2
  case case1 => exact absurd h1 (Nat.not_lt_zero _)
  case case2 => cases f2 <;> rfl
  all_goals
    cases f2 with
    | zero => exact absurd h2 (Nat.not_lt_zero _)
    | succ f2 =>
      replace h1 := Nat.lt_of_succ_lt_succ h1
      replace h2 := Nat.lt_of_succ_lt_succ h2
      -- in the two recovery branches the test on `fx` fixes its value
      try simp only [Bool.not_eq_true] at *
      subst_vars
      simp only [dsplit, *]
      try (rename_i ih; first
        | exact ih f2 h1 h2
        | exact congrArg _ (ih f2 h1 h2)
        | exact congrArg _ (ih f2 (upto_rest_lt h1) (upto_rest_lt h2)))

/-- the kind of span that a token with `declStart` opens (at-keywords and comments are dispatched before) -/
def dkind : TK → DKind
  | .ident => .property
  | _ => .ignored

/-- first token of a span that goes through `upto semicolon` -/
def declStart (s : TK) : Bool :=
  match s with
  | .eof | .ws | .semi | .comment | .atkw _ | .rbrace | .rbracket | .rparen => false
  | _ => true

theorem dsplit_start (s : TK) (h : declStart s = true) (f : Nat) (ts : List TK) :
    dsplit true (f + 1) (s :: ts) =
      (dkind s, (upto true semicolon (some s) ts).1) :: dsplit true f (upto true semicolon (some s) ts).2 := by
  cases s <;> first | rfl | cases h

theorem upto_decl (s : TK) (tail rest : List TK) (hs : declStart s = true) (hp : Prel semicolon (s :: tail)) :
    upto true semicolon (some s) (tail ++ .semi :: rest) = (s :: tail ++ [.semi], rest) := by
  have he : endTok semicolon s = false := by cases s <;> first | rfl | cases hs
  have hc : isClose s = false := by cases s <;> first | rfl | cases hs
  have hne : s ≠ .eof := fun e => by rw [e] at hs; cases hs
  rw [upto_eq_scan semicolon s _ rfl he hc hne]
  have := scan_prel semicolon rfl (s :: tail) hp (.semi :: rest)
  rw [List.cons_append] at this
  rw [this, scan_semi semicolon (by decide)]

end CssVerif.Upto
