import CssVerif.Model.Owners
namespace CssVerif.Owners

@[simp] theorem set_same {st : St} {x : Nat} {o : Obj} : (set st x o).objs x = o := by simp [set]
theorem set_other {st : St} {x y : Nat} {o : Obj} (h : y ≠ x) : (set st x o).objs y = st.objs y := by
  simp [set, h]
@[simp] theorem set_next (st : St) (x : Nat) (o : Obj) : (set st x o).next = st.next := rfl
theorem set_objs (st : St) (x y : Nat) (o : Obj) : (set st x o).objs y = if y = x then o else st.objs y := rfl

def Consistent (st : St) (r : Nat) : Prop := consistent st r = true

def Fresh (st : St) : Prop := ∀ i, st.next ≤ i → st.objs i = .free

theorem lt_next {st : St} (hf : Fresh st) {i : Nat} (h : st.objs i ≠ .free) : i < st.next := by
  apply Nat.lt_of_not_le; intro hle; exact h (hf i hle)

theorem valueOk_iff {st : St} {p v : Nat} : valueOk st p v = true ↔ st.objs v = .value (some p) := by
  unfold valueOk; split <;> simp_all

theorem propOk_iff {st : St} {b p : Nat} :
    propOk st b p = true ↔ ∃ n v, st.objs p = .prop (some b) n v ∧ st.objs v = .value (some p) := by
  unfold propOk; split
  · next par n v h =>
    simp only [h, Bool.and_eq_true, beq_iff_eq, valueOk_iff, Obj.prop.injEq]
    exact ⟨fun ⟨a, c⟩ => ⟨n, v, ⟨a, rfl, rfl⟩, c⟩, fun ⟨_, _, ⟨a, _, e⟩, c⟩ => ⟨a, e ▸ c⟩⟩
  · next h => simp only [Bool.false_eq_true, false_iff]; exact fun ⟨_, _, e, _⟩ => h _ _ _ e

theorem selOk_iff {st : St} {l s : Nat} : selOk st l s = true ↔ ∃ t, st.objs s = .sel (some l) t := by
  unfold selOk; split <;> simp_all

theorem mediaOk_iff {st : St} {r m : Nat} : mediaOk st r m = true ↔ st.objs m = .media (some r) := by
  unfold mediaOk; split <;> simp_all

theorem blockOk_iff {st : St} {r b : Nat} :
    blockOk st r b = true ↔ ∃ ps, st.objs b = .block (some r) ps ∧ ∀ p ∈ ps, propOk st b p = true := by
  unfold blockOk; split
  · next par ps h =>
    simp only [h, Bool.and_eq_true, beq_iff_eq, List.all_eq_true, Obj.block.injEq]
    exact ⟨fun ⟨a, c⟩ => ⟨ps, ⟨a, rfl⟩, c⟩, fun ⟨_, ⟨a, e⟩, c⟩ => ⟨a, e ▸ c⟩⟩
  · next h => simp only [Bool.false_eq_true, false_iff]; exact fun ⟨_, e, _⟩ => h _ _ e

theorem selListOk_iff {st : St} {r l : Nat} :
    selListOk st r l = true ↔ ∃ ss, st.objs l = .sellist (some r) ss ∧ ∀ s ∈ ss, selOk st l s = true := by
  unfold selListOk; split
  · next par ss h =>
    simp only [h, Bool.and_eq_true, beq_iff_eq, List.all_eq_true, Obj.sellist.injEq]
    exact ⟨fun ⟨a, c⟩ => ⟨ss, ⟨a, rfl⟩, c⟩, fun ⟨_, ⟨a, e⟩, c⟩ => ⟨a, e ▸ c⟩⟩
  · next h => simp only [Bool.false_eq_true, false_iff]; exact fun ⟨_, e, _⟩ => h _ _ e

theorem consistent_iff {st : St} {r : Nat} :
    Consistent st r ↔ ∃ s l m, st.objs r = .rule s l m ∧ (∀ b, s = some b → blockOk st r b = true) ∧
      (∀ x, l = some x → selListOk st r x = true) ∧ (∀ x, m = some x → mediaOk st r x = true) := by
  unfold Consistent consistent; split
  · next s l m h =>
    rw [h]; simp only [Bool.and_eq_true, Option.all_eq_true, and_assoc]
    exact ⟨fun hh => ⟨s, l, m, rfl, hh⟩, fun ⟨_, _, _, e, hh⟩ => by cases e; exact hh⟩
  · next h => simp only [Bool.false_eq_true, false_iff]; exact fun ⟨s, l, m, e, _⟩ => h s l m e

/-! ### creation only touches unused ids -/

structure Ext (st st' : St) : Prop where
  le : st.next ≤ st'.next
  low : ∀ i, i < st.next → st'.objs i = st.objs i
  high : ∀ i, st'.next ≤ i → st'.objs i = st.objs i

theorem Ext.refl (st : St) : Ext st st := ⟨Nat.le_refl _, fun _ _ => rfl, fun _ _ => rfl⟩

theorem Ext.trans {a b c : St} (h1 : Ext a b) (h2 : Ext b c) : Ext a c :=
  ⟨Nat.le_trans h1.le h2.le,
   fun i hi => (h2.low i (Nat.lt_of_lt_of_le hi h1.le)).trans (h1.low i hi),
   fun i hi => (h2.high i hi).trans (h1.high i (Nat.le_trans h2.le hi))⟩

theorem Ext.fresh {a b : St} (h : Ext a b) (hf : Fresh a) : Fresh b :=
  fun i hi => (h.high i hi).trans (hf i (Nat.le_trans h.le hi))

theorem Ext.bump (st : St) (k : Nat) : Ext st { st with next := st.next + k } :=
  ⟨Nat.le_add_right _ _, fun _ _ => rfl, fun _ _ => rfl⟩

theorem Ext.set {a b : St} (h : Ext a b) {x : Nat} {o : Obj} (h1 : a.next ≤ x) (h2 : x < b.next) :
    Ext a (set b x o) :=
  ⟨h.le, fun i hi => by rw [set_other (by omega)]; exact h.low i hi,
   fun i hi => by rw [set_other (by simp at hi; omega)]; exact h.high i hi⟩

/-! ### a write to objects of some kinds leaves the checks that look at the other kinds alone -/

def Pres (K : Obj → Prop) (st st' : St) : Prop := ∀ y, ¬ K (st.objs y) → st'.objs y = st.objs y

theorem Ext.pres {a b : St} (h : Ext a b) (hf : Fresh a) : Pres (· = .free) a b :=
  fun i hi => h.low i (lt_next hf hi)

theorem Pres.refl (K : Obj → Prop) (st : St) : Pres K st st := fun _ _ => rfl

theorem Pres.set {K : Obj → Prop} {st st' : St} (k : Pres K st st') {x : Nat} {o : Obj} (hx : K (st.objs x)) :
    Pres K st (set st' x o) :=
  fun y hy => by rw [set_other (fun e => hy (by rw [e]; exact hx))]; exact k y hy

section
variable {K : Obj → Prop} {st st' : St} (k : Pres K st st')
include k

theorem Pres.at {y : Nat} {o : Obj} (h : st.objs y = o) (ho : ¬ K o := by nofun) : st'.objs y = o := by
  rw [k y (by rw [h]; exact ho), h]

theorem Pres.propOk {b p : Nat} (h : propOk st b p = true) (hp : ∀ a n v, ¬ K (.prop a n v) := by intros; nofun)
    (hv : ∀ a, ¬ K (.value a) := by intros; nofun) : propOk st' b p = true := by
  obtain ⟨n, v, h1, h2⟩ := propOk_iff.1 h
  exact propOk_iff.2 ⟨n, v, k.at h1 (hp _ _ _), k.at h2 (hv _)⟩

theorem Pres.blockOk {r b : Nat} (h : blockOk st r b = true) (hb : ∀ a ps, ¬ K (.block a ps) := by intros; nofun)
    (hp : ∀ a n v, ¬ K (.prop a n v) := by intros; nofun) (hv : ∀ a, ¬ K (.value a) := by intros; nofun) :
    blockOk st' r b = true := by
  obtain ⟨ps, h1, h2⟩ := blockOk_iff.1 h
  exact blockOk_iff.2 ⟨ps, k.at h1 (hb _ _), fun p hp' => k.propOk (h2 p hp') hp hv⟩

theorem Pres.selOk {l s : Nat} (h : selOk st l s = true) (hs : ∀ a t, ¬ K (.sel a t) := by intros; nofun) :
    selOk st' l s = true := by
  obtain ⟨t, h1⟩ := selOk_iff.1 h
  exact selOk_iff.2 ⟨t, k.at h1 (hs _ _)⟩

theorem Pres.selListOk {r l : Nat} (h : selListOk st r l = true) (hl : ∀ a ss, ¬ K (.sellist a ss) := by intros; nofun)
    (hs : ∀ a t, ¬ K (.sel a t) := by intros; nofun) : selListOk st' r l = true := by
  obtain ⟨ss, h1, h2⟩ := selListOk_iff.1 h
  exact selListOk_iff.2 ⟨ss, k.at h1 (hl _ _), fun s hs' => k.selOk (h2 s hs') hs⟩

theorem Pres.mediaOk {r m : Nat} (h : mediaOk st r m = true) (hm : ∀ a, ¬ K (.media a) := by intros; nofun) :
    mediaOk st' r m = true :=
  mediaOk_iff.2 (k.at (mediaOk_iff.1 h) (hm _))

end

theorem Pres.consistent {st st' : St} (k : Pres (· = .free) st st') {r : Nat} (h : Consistent st r) :
    Consistent st' r := by
  obtain ⟨s, l, m, h0, h1, h2, h3⟩ := consistent_iff.1 h
  exact consistent_iff.2 ⟨s, l, m, k.at h0, fun b hb => k.blockOk (h1 b hb), fun x hx => k.selListOk (h2 x hx),
    fun x hx => k.mediaOk (h3 x hx)⟩

/-- `Pres (· = .free)` spelled out -/
def Keeps (st st' : St) : Prop := ∀ i, st.objs i ≠ .free → st'.objs i = st.objs i

theorem Keeps.consistent {st st' : St} (k : Keeps st st') {r : Nat} (h : Consistent st r) : Consistent st' r :=
  Pres.consistent k h

/-! ### the constructors: the new objects name their owner -/

theorem newProp_spec (st : St) (par : Option Nat) (n : Nat) :
    Ext st (newProp st par n).1 ∧ (newProp st par n).2 = st.next ∧
    (newProp st par n).1.objs st.next = .prop par n (st.next + 1) ∧
    (newProp st par n).1.objs (st.next + 1) = .value (some st.next) := by
  refine ⟨?_, rfl, ?_, ?_⟩
  · exact ((Ext.bump st 2).set (Nat.le_refl _) (by simp)).set (by simp) (by simp)
  · simp [newProp, set_objs]
  · simp [newProp]

theorem newProps_spec (par : Option Nat) (names : List Nat) : ∀ st : St, Fresh st →
    Ext st (newProps st par names).1 ∧ ∀ p ∈ (newProps st par names).2, ∃ n v,
      (newProps st par names).1.objs p = .prop par n v ∧ (newProps st par names).1.objs v = .value (some p) := by
  induction names with
  | nil => intro st _; exact ⟨Ext.refl st, by simp [newProps]⟩
  | cons n ns ih =>
    intro st hf
    obtain ⟨e1, h2, h4, h5⟩ := newProp_spec st par n
    obtain ⟨e2, hps⟩ := ih (newProp st par n).1 (e1.fresh hf)
    refine ⟨e1.trans e2, fun p hp => ?_⟩
    simp only [newProps, List.mem_cons] at hp
    rcases hp with hp | hp
    · have k := e2.pres (e1.fresh hf)
      rw [h2] at hp; subst hp
      exact ⟨n, _, k.at h4, k.at h5⟩
    · exact hps p hp

theorem newBlock_spec (st : St) (par : Option Nat) (names : List Nat) (hf : Fresh st) :
    Ext st (newBlock st par names).1 ∧ (newBlock st par names).2 = st.next ∧
    ∃ ps, (newBlock st par names).1.objs st.next = .block par ps ∧
      ∀ p ∈ ps, propOk (newBlock st par names).1 st.next p = true := by
  obtain ⟨e, hps⟩ := newProps_spec (some st.next) names { st with next := st.next + 1 } ((Ext.bump st 1).fresh hf)
  have k : Pres (· = .free) _ (newBlock st par names).1 :=
    (Pres.refl _ _).set (by rw [e.low _ (Nat.lt_succ_self _)]; exact hf _ (Nat.le_refl _))
  refine ⟨?_, rfl, _, set_same, fun p hp => ?_⟩
  · exact ((Ext.bump st 1).trans e).set (Nat.le_refl _) (Nat.lt_of_lt_of_le (Nat.lt_succ_self _) e.le)
  · obtain ⟨n, v, h1, h2⟩ := hps p hp
    exact propOk_iff.2 ⟨n, v, k.at h1, k.at h2⟩

theorem newSel_spec (st : St) (par : Option Nat) (t : Nat) :
    Ext st (newSel st par t).1 ∧ (newSel st par t).2 = st.next ∧ (newSel st par t).1.objs st.next = .sel par t :=
  ⟨(Ext.bump st 1).set (Nat.le_refl _) (by simp), rfl, by simp [newSel]⟩

theorem newSels_spec (par : Option Nat) (texts : List Nat) : ∀ st : St, Fresh st →
    Ext st (newSels st par texts).1 ∧
      ∀ s ∈ (newSels st par texts).2, ∃ t, (newSels st par texts).1.objs s = .sel par t := by
  induction texts with
  | nil => intro st _; exact ⟨Ext.refl st, by simp [newSels]⟩
  | cons t ts ih =>
    intro st hf
    obtain ⟨e1, h2, h4⟩ := newSel_spec st par t
    obtain ⟨e2, hss⟩ := ih (newSel st par t).1 (e1.fresh hf)
    refine ⟨e1.trans e2, fun s hs => ?_⟩
    simp only [newSels, List.mem_cons] at hs
    rcases hs with hs | hs
    · rw [h2] at hs; subst hs
      exact ⟨t, (e2.pres (e1.fresh hf)).at h4⟩
    · exact hss s hs

theorem newSelList_spec (st : St) (par : Option Nat) (texts : List Nat) (hf : Fresh st) :
    Ext st (newSelList st par texts).1 ∧ (newSelList st par texts).2 = st.next ∧
    ∃ ss, (newSelList st par texts).1.objs st.next = .sellist par ss ∧
      ∀ s ∈ ss, selOk (newSelList st par texts).1 st.next s = true := by
  obtain ⟨e, hss⟩ := newSels_spec (some st.next) texts { st with next := st.next + 1 } ((Ext.bump st 1).fresh hf)
  have k : Pres (· = .free) _ (newSelList st par texts).1 :=
    (Pres.refl _ _).set (by rw [e.low _ (Nat.lt_succ_self _)]; exact hf _ (Nat.le_refl _))
  refine ⟨?_, rfl, _, set_same, fun s hs => ?_⟩
  · exact ((Ext.bump st 1).trans e).set (Nat.le_refl _) (Nat.lt_of_lt_of_le (Nat.lt_succ_self _) e.le)
  · obtain ⟨t, h1⟩ := hss s hs
    exact selOk_iff.2 ⟨t, k.at h1⟩

theorem newMedia_spec (st : St) (par : Option Nat) :
    Ext st (newMedia st par).1 ∧ (newMedia st par).2 = st.next ∧ (newMedia st par).1.objs st.next = .media par :=
  ⟨(Ext.bump st 1).set (Nat.le_refl _) (by simp), rfl, by simp [newMedia]⟩

theorem optSelList_spec (st : St) (r : Nat) (sels : Option (List Nat)) (hf : Fresh st) :
    Ext st (optSelList st r sels).1 ∧ ∀ x, (optSelList st r sels).2 = some x →
      selListOk (optSelList st r sels).1 r x = true := by
  cases sels with
  | none => exact ⟨Ext.refl _, by simp [optSelList]⟩
  | some ts =>
    obtain ⟨e, h1, ss, h2, h3⟩ := newSelList_spec st (some r) ts hf
    refine ⟨e, fun x hx => ?_⟩
    simp only [optSelList, h1, Option.some.injEq] at hx; subst hx
    exact selListOk_iff.2 ⟨ss, h2, h3⟩

theorem optBlock_spec (st : St) (r : Nat) (decls : Option (List Nat)) (hf : Fresh st) :
    Ext st (optBlock st r decls).1 ∧ ∀ x, (optBlock st r decls).2 = some x →
      blockOk (optBlock st r decls).1 r x = true := by
  cases decls with
  | none => exact ⟨Ext.refl _, by simp [optBlock]⟩
  | some ns =>
    obtain ⟨e, h1, ps, h2, h3⟩ := newBlock_spec st (some r) ns hf
    refine ⟨e, fun x hx => ?_⟩
    simp only [optBlock, h1, Option.some.injEq] at hx; subst hx
    exact blockOk_iff.2 ⟨ps, h2, h3⟩

theorem optMedia_spec (st : St) (r : Nat) (media : Bool) :
    Ext st (optMedia st r media).1 ∧ ∀ x, (optMedia st r media).2 = some x →
      mediaOk (optMedia st r media).1 r x = true := by
  cases media with
  | false => exact ⟨Ext.refl _, by simp [optMedia]⟩
  | true =>
    obtain ⟨e, h1, h2⟩ := newMedia_spec st (some r)
    refine ⟨e, fun x hx => ?_⟩
    simp only [optMedia, h1, Option.some.injEq] at hx; subst hx
    exact mediaOk_iff.2 h2

theorem newRule_spec (st : St) (sels decls : Option (List Nat)) (media : Bool) (hf : Fresh st) :
    Ext st (newRule st sels decls media).1 ∧ (newRule st sels decls media).2 = st.next ∧
    Consistent (newRule st sels decls media).1 st.next := by
  simp only [newRule]
  have e0 := Ext.bump st 1
  have f0 := e0.fresh hf
  obtain ⟨ea, ha⟩ := optSelList_spec { st with next := st.next + 1 } st.next sels f0
  generalize optSelList { st with next := st.next + 1 } st.next sels = a at ea ha ⊢
  have fa := ea.fresh f0
  obtain ⟨eb, hb⟩ := optBlock_spec a.1 st.next decls fa
  generalize optBlock a.1 st.next decls = b at eb hb ⊢
  have fb := eb.fresh fa
  obtain ⟨ec, hc⟩ := optMedia_spec b.1 st.next media
  generalize optMedia b.1 st.next media = c at ec hc ⊢
  have e := ea.trans (eb.trans ec)
  have kc : Pres (· = .free) c.1 (set c.1 st.next (.rule b.2 a.2 c.2)) :=
    (Pres.refl _ _).set (by rw [e.low _ (Nat.lt_succ_self _)]; exact hf _ (Nat.le_refl _))
  refine ⟨(e0.trans e).set (Nat.le_refl _) (Nat.lt_of_lt_of_le (Nat.lt_succ_self _) e.le), trivial, ?_⟩
  exact consistent_iff.2 ⟨_, _, _, set_same,
    fun x hx => kc.blockOk ((ec.pres fb).blockOk (hb x hx)),
    fun x hx => kc.selListOk ((ec.pres fb).selListOk ((eb.pres fa).selListOk (ha x hx))),
    fun x hx => kc.mediaOk (hc x hx)⟩

/-! ### what the check gives: every child of every reachable object names that object -/

theorem reach_self (st : St) (d x : Nat) : x ∈ reach st d x := by cases d <;> simp [reach]

theorem reach_kid (st : St) (d x k : Nat) (h : k ∈ kids (st.objs x)) : k ∈ reach st (d + 1) x := by
  rw [reach, List.mem_cons, List.mem_flatMap]
  exact Or.inr ⟨k, h, reach_self st d k⟩

theorem reach_kid2 (st : St) (d x k : Nat) (h : k ∈ kids (st.objs x)) : k ∈ reach st (d + 2) x :=
  reach_kid st (d + 1) x k h

def Owned (st : St) (c : Nat) : Prop :=
  ∀ d, ∀ c' ∈ reach st d c, ∀ x ∈ kids (st.objs c'), parent (st.objs x) = some c'

theorem owned_of_kids {st : St} {c : Nat}
    (h : ∀ k ∈ kids (st.objs c), parent (st.objs k) = some c ∧ Owned st k) : Owned st c := by
  intro d c' hc' x hx
  cases d with
  | zero => rw [reach, List.mem_singleton] at hc'; subst hc'; exact (h x hx).1
  | succ d =>
    rw [reach, List.mem_cons, List.mem_flatMap] at hc'
    rcases hc' with rfl | ⟨k, hk, hc'⟩
    · exact (h x hx).1
    · exact (h k hk).2 d c' hc' x hx

theorem node_owned {st : St} {c x : Nat} {o : Obj} (e : st.objs x = o) (hp : parent o = some c)
    (hk : ∀ k ∈ kids o, parent (st.objs k) = some x ∧ Owned st k) : parent (st.objs x) = some c ∧ Owned st x :=
  ⟨by rw [e]; exact hp, owned_of_kids (by rw [e]; exact hk)⟩

theorem Consistent.owned {st : St} {r : Nat} (hc : Consistent st r) : Owned st r := by
  obtain ⟨s, l, m, h0, h1, h2, h3⟩ := consistent_iff.1 hc
  refine owned_of_kids ?_
  rw [h0]; intro k hk
  simp only [kids, List.mem_append, Option.mem_toList] at hk
  rcases hk with (hk | hk) | hk
  · obtain ⟨ps, e, hps⟩ := blockOk_iff.1 (h1 k hk)
    refine node_owned e rfl fun p hp => ?_
    obtain ⟨n, v, e1, e2⟩ := propOk_iff.1 (hps p hp)
    refine node_owned e1 rfl fun v' hv => ?_
    cases List.mem_singleton.1 hv
    exact node_owned e2 rfl nofun
  · obtain ⟨ss, e, hss⟩ := selListOk_iff.1 (h2 k hk)
    refine node_owned e rfl fun q hq => ?_
    obtain ⟨t, e1⟩ := selOk_iff.1 (hss q hq)
    exact node_owned e1 rfl nofun
  · exact node_owned (mediaOk_iff.1 (h3 k hk)) rfl nofun

/-- the adopted object's own children already name it (a block's properties, a property's value, a selector
list's selectors): adoption writes the object's link only -/
def inner (st : St) (x : Nat) : Bool :=
  match st.objs x with
  | .block _ ps => ps.all (propOk st x)
  | .prop _ _ v => valueOk st x v
  | .sellist _ ss => ss.all (selOk st x)
  | _ => true

/-- `Adopt st r c x` — container `c` may adopt object `x` without breaking rule `r`:
no container reachable from `r` other than `c` itself currently lists `x`; and if `c` belongs to `r`, the
children of `x` name `x`. -/
def Adopt (st : St) (r c x : Nat) : Prop :=
  (∀ c' ∈ reach st 3 r, x ∈ kids (st.objs c') → c' = c) ∧ (c ∈ reach st 3 r → inner st x = true)

theorem adopt_of_parent {st : St} {r c x : Nat} (hc : Consistent st r) (hp : parent (st.objs x) = some c)
    (hin : inner st x = true) : Adopt st r c x :=
  ⟨fun c' hc' hx => Option.some.inj ((hc.owned 3 c' hc' x hx).symm.trans hp), fun _ => hin⟩

theorem ne_of_objs {st : St} {x y : Nat} {a b : Obj} (hx : st.objs x = a) (hy : st.objs y = b)
    (h : a.ctorIdx ≠ b.ctorIdx := by simp [_root_.CssVerif.Owners.Obj.ctorIdx]) : x ≠ y :=
  fun e => h (by rw [← hx, ← hy, e])

theorem set2_spec {K : Obj → Prop} {st : St} {x y : Nat} (hx : K (st.objs x)) (hy : K (st.objs y)) (hxy : x ≠ y)
    (a b : Obj) :
    Pres K st (set (set st x a) y b) ∧ (set (set st x a) y b).objs x = a ∧ (set (set st x a) y b).objs y = b ∧
      ∀ z {o}, z ≠ x → z ≠ y → st.objs z = o → (set (set st x a) y b).objs z = o :=
  ⟨((Pres.refl K st).set hx).set hy, by rw [set_other hxy, set_same], set_same,
    fun z _ h1 h2 h => by rw [set_other h2, set_other h1]; exact h⟩

/-! ### adoption and in-place replacement: the rule asked about is either the adopting one, whose new part must
be in order, or another one, which must not list the adopted object -/

theorem adopt_other_ok {K : Obj → Prop} {st st' : St} {r r0 x : Nat} {s0 l0 m0 : Option Nat}
    (hc : Consistent st r) (ha : Adopt st r r0 x) (hne : r ≠ r0) (hr0 : st.objs r0 = .rule s0 l0 m0)
    (hx : ∀ s l m, st.objs x ≠ .rule s l m) (k : Pres K st st')
    (hoth : ∀ z {o}, z ≠ x → z ≠ r0 → st.objs z = o → st'.objs z = o)
    (hp : ∀ a n v, ¬ K (.prop a n v) := by intros; nofun) (hv : ∀ a, ¬ K (.value a) := by intros; nofun)
    (hs : ∀ a t, ¬ K (.sel a t) := by intros; nofun) : Consistent st' r := by
  obtain ⟨s, l, m, h0, h1, h2, h3⟩ := consistent_iff.1 hc
  have same : ∀ y ∈ kids (st.objs r), ∀ {o}, st.objs y = o → st'.objs y = o := fun y hy o e =>
    hoth y (fun e' => hne (ha.1 r (reach_self st 3 r) (e' ▸ hy)))
      (fun e' => by have := hc.owned 0 r (reach_self st 0 r) y hy; rw [e', hr0] at this; cases this) e
  rw [h0] at same
  refine consistent_iff.2 ⟨s, l, m, hoth r (fun e' => hx s l m (e' ▸ h0)) hne h0, fun b hb => ?_, fun b hb => ?_,
    fun b hb => ?_⟩
  · obtain ⟨ps, e, hps⟩ := blockOk_iff.1 (h1 b hb)
    exact blockOk_iff.2 ⟨ps, same b (by simp [kids, hb]) e, fun p hp' => k.propOk (hps p hp') hp hv⟩
  · obtain ⟨ss, e, hss⟩ := selListOk_iff.1 (h2 b hb)
    exact selListOk_iff.2 ⟨ss, same b (by simp [kids, hb]) e, fun q hq => k.selOk (hss q hq) hs⟩
  · exact mediaOk_iff.2 (same b (by simp [kids, hb]) (mediaOk_iff.1 (h3 b hb)))

theorem setStyleObj_ok {st : St} {r0 x r : Nat} (hc : Consistent st r) (ha : Adopt st r r0 x) :
    Consistent (setStyleObj st r0 x) r := by
  unfold setStyleObj
  split
  · next s0 l0 m0 pr ps hr0 hx =>
    obtain ⟨k, hx', hr0', hoth⟩ := set2_spec (K := (· matches .rule .. | .block ..)) (by rw [hx]) (by rw [hr0])
      (ne_of_objs hx hr0) (.block (some r0) ps) (.rule (some x) l0 m0)
    generalize set (set st x _) r0 _ = st' at k hx' hr0' hoth ⊢
    by_cases e : r = r0
    · subst e
      obtain ⟨s, l, m, h0, -, h2, h3⟩ := consistent_iff.1 hc
      rw [hr0] at h0; cases h0
      have hin := ha.2 (reach_self st 3 r)
      simp only [inner, hx, List.all_eq_true] at hin
      refine consistent_iff.2 ⟨_, _, _, hr0', fun b hb => ?_, fun l hl => k.selListOk (h2 l hl),
        fun m hm => k.mediaOk (h3 m hm)⟩
      cases hb
      exact blockOk_iff.2 ⟨ps, hx', fun p hp => k.propOk (hin p hp)⟩
    · exact adopt_other_ok hc ha e hr0 (fun _ _ _ => by rw [hx]; nofun) k hoth
  · exact hc

theorem setSelListObj_ok {st : St} {r0 x r : Nat} (hc : Consistent st r) (ha : Adopt st r r0 x) :
    Consistent (setSelListObj st r0 x) r := by
  unfold setSelListObj
  split
  · next s0 l0 m0 pr ss hr0 hx =>
    obtain ⟨k, hx', hr0', hoth⟩ := set2_spec (K := (· matches .rule .. | .sellist ..)) (by rw [hx]) (by rw [hr0])
      (ne_of_objs hx hr0) (.sellist (some r0) ss) (.rule s0 (some x) m0)
    generalize set (set st x _) r0 _ = st' at k hx' hr0' hoth ⊢
    by_cases e : r = r0
    · subst e
      obtain ⟨s, l, m, h0, h1, -, h3⟩ := consistent_iff.1 hc
      rw [hr0] at h0; cases h0
      have hin := ha.2 (reach_self st 3 r)
      simp only [inner, hx, List.all_eq_true] at hin
      refine consistent_iff.2 ⟨_, _, _, hr0', fun b hb => k.blockOk (h1 b hb), fun l hl => ?_,
        fun m hm => k.mediaOk (h3 m hm)⟩
      cases hl
      exact selListOk_iff.2 ⟨ss, hx', fun q hq => k.selOk (hin q hq)⟩
    · exact adopt_other_ok hc ha e hr0 (fun _ _ _ => by rw [hx]; nofun) k hoth
  · exact hc

theorem setMediaObj_ok {st : St} {r0 x r : Nat} (hc : Consistent st r) (ha : Adopt st r r0 x) :
    Consistent (setMediaObj st r0 x) r := by
  unfold setMediaObj
  split
  · next s0 l0 m0 pr hr0 hx =>
    obtain ⟨k, hx', hr0', hoth⟩ := set2_spec (K := (· matches .rule .. | .media ..)) (by rw [hx]) (by rw [hr0])
      (ne_of_objs hx hr0) (.media (some r0)) (.rule s0 l0 (some x))
    generalize set (set st x _) r0 _ = st' at k hx' hr0' hoth ⊢
    by_cases e : r = r0
    · subst e
      obtain ⟨s, l, m, h0, h1, h2, -⟩ := consistent_iff.1 hc
      rw [hr0] at h0; cases h0
      refine consistent_iff.2 ⟨_, _, _, hr0', fun b hb => k.blockOk (h1 b hb), fun l hl => k.selListOk (h2 l hl),
        fun m hm => ?_⟩
      cases hm
      exact mediaOk_iff.2 hx'
    · exact adopt_other_ok hc ha e hr0 (fun _ _ _ => by rw [hx]; nofun) k hoth
  · exact hc

theorem replaceProps_ok {st : St} {b r : Nat} {pr : Option Nat} {old new : List Nat} (hc : Consistent st r)
    (hb : st.objs b = .block pr old)
    (hnew : (∀ p ∈ old, propOk st b p = true) → ∀ p ∈ new, propOk st b p = true) :
    Consistent (set st b (.block pr new)) r := by
  have k : Pres (· matches .block ..) st (set st b (.block pr new)) := (Pres.refl _ st).set (by rw [hb])
  obtain ⟨s, l, m, h0, h1, h2, h3⟩ := consistent_iff.1 hc
  refine consistent_iff.2 ⟨s, l, m, k.at h0, fun b' hs => ?_, fun y hy => k.selListOk (h2 y hy),
    fun y hy => k.mediaOk (h3 y hy)⟩
  obtain ⟨ps, e, hps⟩ := blockOk_iff.1 (h1 b' hs)
  by_cases e' : b' = b
  · subst e' hs
    rw [hb] at e; cases e
    exact blockOk_iff.2 ⟨new, set_same, fun p hp => k.propOk (hnew hps p hp)⟩
  · exact blockOk_iff.2 ⟨ps, by rw [set_other e']; exact e, fun p hp => k.propOk (hps p hp)⟩

theorem replaceSels_ok {st : St} {l0 r : Nat} {pr : Option Nat} {old new : List Nat} (hc : Consistent st r)
    (hb : st.objs l0 = .sellist pr old)
    (hnew : (∀ p ∈ old, selOk st l0 p = true) → ∀ p ∈ new, selOk st l0 p = true) :
    Consistent (set st l0 (.sellist pr new)) r := by
  have k : Pres (· matches .sellist ..) st (set st l0 (.sellist pr new)) := (Pres.refl _ st).set (by rw [hb])
  obtain ⟨s, l, m, h0, h1, h2, h3⟩ := consistent_iff.1 hc
  refine consistent_iff.2 ⟨s, l, m, k.at h0, fun y hy => k.blockOk (h1 y hy), fun l' hs => ?_,
    fun y hy => k.mediaOk (h3 y hy)⟩
  obtain ⟨ss, e, hss⟩ := selListOk_iff.1 (h2 l' hs)
  by_cases e' : l' = l0
  · subst e' hs
    rw [hb] at e; cases e
    exact selListOk_iff.2 ⟨new, set_same, fun q hq => k.selOk (hnew hss q hq)⟩
  · exact selListOk_iff.2 ⟨ss, by rw [set_other e']; exact e, fun q hq => k.selOk (hss q hq)⟩

theorem setPropObj_ok {st : St} {b0 p r : Nat} (hc : Consistent st r) (ha : Adopt st r b0 p) :
    Consistent (setPropObj st b0 p) r := by
  unfold setPropObj
  split
  · next pr0 ps0 par n v hb0 hp =>
    split
    · exact hc
    · obtain ⟨k, hp', hb0', hoth⟩ := set2_spec (K := (· matches .block .. | .prop ..)) (by rw [hp]) (by rw [hb0])
        (ne_of_objs hp hb0) (.prop (some b0) n v) (.block pr0 (ps0 ++ [p]))
      generalize set (set st p _) b0 _ = st' at k hp' hb0' hoth ⊢
      obtain ⟨s, l, m, h0, h1, h2, h3⟩ := consistent_iff.1 hc
      refine consistent_iff.2 ⟨s, l, m, k.at h0, fun b hs => ?_, fun y hy => k.selListOk (h2 y hy),
        fun y hy => k.mediaOk (h3 y hy)⟩
      subst hs
      obtain ⟨ps, e, hps⟩ := blockOk_iff.1 (h1 b rfl)
      have hb := reach_kid st 2 r b (by simp [h0, kids])
      have keep : ∀ q ∈ ps, q ≠ p → propOk st' b q = true := fun q hq hne => by
        obtain ⟨n', v', e1, e2⟩ := propOk_iff.1 (hps q hq)
        exact propOk_iff.2 ⟨n', v', hoth q hne (ne_of_objs e1 hb0) e1, k.at e2⟩
      rw [blockOk_iff]
      by_cases e' : b = b0
      · subst e'
        rw [hb0] at e; cases e
        refine ⟨_, hb0', fun q hq => ?_⟩
        by_cases hqp : q = p
        · subst hqp
          have hv := ha.2 hb
          simp only [inner, hp] at hv
          exact propOk_iff.2 ⟨n, v, hp', k.at (valueOk_iff.1 hv)⟩
        · exact keep q ((List.mem_append.1 hq).resolve_right (fun h => hqp (List.mem_singleton.1 h))) hqp
      · exact ⟨ps, hoth b (ne_of_objs e hp) e' e,
          fun q hq => keep q hq (fun e'' => e' (ha.1 b hb (by rw [e]; exact e'' ▸ hq)))⟩
  · exact hc

theorem appendSelObj_ok {st : St} {l0 x r : Nat} (hc : Consistent st r) (ha : Adopt st r l0 x) :
    Consistent (appendSelObj st l0 x) r := by
  unfold appendSelObj
  split
  · next pr0 ss0 par t hl0 hx =>
    have hkept : ∀ q ∈ ss0.filter (fun q => textOf (st.objs q) != some t), q ∈ ss0 :=
      fun q h => (List.mem_filter.1 h).1
    generalize ss0.filter (fun q => textOf (st.objs q) != some t) = kept at hkept ⊢
    obtain ⟨k, hx', hl0', hoth⟩ := set2_spec (K := (· matches .sellist .. | .sel ..)) (by rw [hx]) (by rw [hl0])
      (ne_of_objs hx hl0) (.sel (some l0) t) (.sellist pr0 (kept ++ [x]))
    generalize set (set st x _) l0 _ = st' at k hx' hl0' hoth ⊢
    obtain ⟨s, l, m, h0, h1, h2, h3⟩ := consistent_iff.1 hc
    refine consistent_iff.2 ⟨s, l, m, k.at h0, fun y hy => k.blockOk (h1 y hy), fun l' hs => ?_,
      fun y hy => k.mediaOk (h3 y hy)⟩
    subst hs
    obtain ⟨ss, e, hss⟩ := selListOk_iff.1 (h2 l' rfl)
    have keep : ∀ q ∈ ss, q ≠ x → selOk st' l' q = true := fun q hq hne => by
      obtain ⟨t', e1⟩ := selOk_iff.1 (hss q hq)
      exact selOk_iff.2 ⟨t', hoth q hne (ne_of_objs e1 hl0) e1⟩
    rw [selListOk_iff]
    by_cases e' : l' = l0
    · subst e'
      rw [hl0] at e; cases e
      refine ⟨_, hl0', fun q hq => ?_⟩
      by_cases hqx : q = x
      · subst hqx
        exact selOk_iff.2 ⟨t, hx'⟩
      · exact keep q (hkept q ((List.mem_append.1 hq).resolve_right
          (fun h => hqx (List.mem_singleton.1 h)))) hqx
    · exact ⟨ss, hoth l' (ne_of_objs e hx) e' e,
        fun q hq => keep q hq (fun e'' => e' (ha.1 l' (reach_kid st 2 r l' (by simp [h0, kids]))
          (by rw [e]; exact e'' ▸ hq)))⟩
  · exact hc

/-! ### the counter stays ahead of every allocated id -/

theorem Pres.fresh {st st' : St} (k : Pres (· ≠ .free) st st') (hn : st'.next = st.next) (hf : Fresh st) :
    Fresh st' :=
  fun i hi => k.at (hf i (hn ▸ hi)) (fun h => h rfl)

theorem Fresh.set {st : St} (hf : Fresh st) {x : Nat} {o : Obj} (hx : st.objs x ≠ .free) :
    Fresh (Owners.set st x o) :=
  ((Pres.refl _ st).set hx).fresh rfl hf

theorem Fresh.set2 {st : St} (hf : Fresh st) {x y : Nat} {a b : Obj} (hx : st.objs x ≠ .free)
    (hy : st.objs y ≠ .free) : Fresh (Owners.set (Owners.set st x a) y b) :=
  (((Pres.refl _ st).set hx).set hy).fresh rfl hf

theorem setStyleObj_fresh {st : St} (hf : Fresh st) {r x : Nat} : Fresh (setStyleObj st r x) := by
  unfold setStyleObj; split
  · next h1 h2 => exact hf.set2 (by rw [h2]; nofun) (by rw [h1]; nofun)
  · exact hf
theorem setSelListObj_fresh {st : St} (hf : Fresh st) {r x : Nat} : Fresh (setSelListObj st r x) := by
  unfold setSelListObj; split
  · next h1 h2 => exact hf.set2 (by rw [h2]; nofun) (by rw [h1]; nofun)
  · exact hf
theorem setMediaObj_fresh {st : St} (hf : Fresh st) {r x : Nat} : Fresh (setMediaObj st r x) := by
  unfold setMediaObj; split
  · next h1 h2 => exact hf.set2 (by rw [h2]; nofun) (by rw [h1]; nofun)
  · exact hf
theorem setPropObj_fresh {st : St} (hf : Fresh st) {b p : Nat} : Fresh (setPropObj st b p) := by
  unfold setPropObj; split
  · next h1 h2 =>
    split
    · exact hf
    · exact hf.set2 (by rw [h2]; nofun) (by rw [h1]; nofun)
  · exact hf
theorem appendSelObj_fresh {st : St} (hf : Fresh st) {l s : Nat} : Fresh (appendSelObj st l s) := by
  unfold appendSelObj; split
  · next h1 h2 => exact hf.set2 (by rw [h2]; nofun) (by rw [h1]; nofun)
  · exact hf

theorem setBlockText_fresh {st : St} (hf : Fresh st) {b : Nat} {ns : List Nat} : Fresh (setBlockText st b ns) := by
  unfold setBlockText; split
  · next h =>
    have e := (newProps_spec (some b) ns st hf).1
    exact (e.fresh hf).set (by rw [e.low b (lt_next hf (by simp [h])), h]; nofun)
  · exact hf

theorem setPropText_fresh {st : St} (hf : Fresh st) {b n : Nat} : Fresh (setPropText st b n) := by
  unfold setPropText; split
  · split
    · exact hf
    · exact setPropObj_fresh ((newProp_spec st (some b) n).1.fresh hf)
  · exact hf

theorem removeProp_fresh {st : St} (hf : Fresh st) {b n : Nat} : Fresh (removeProp st b n) := by
  unfold removeProp; split
  · next h => exact hf.set (by rw [h]; nofun)
  · exact hf

theorem setSelectorText_fresh {st : St} (hf : Fresh st) {r : Nat} {ts : List Nat} :
    Fresh (setSelectorText st r ts) := by
  unfold setSelectorText; split
  · exact hf
  · exact setSelListObj_fresh ((newSelList_spec st (some r) ts hf).1.fresh hf)

theorem setSelListText_fresh {st : St} (hf : Fresh st) {l : Nat} {ts : List Nat} :
    Fresh (setSelListText st l ts) := by
  unfold setSelListText; split
  · next h =>
    split
    · exact hf
    · have e := (newSels_spec (some l) ts st hf).1
      exact (e.fresh hf).set (by rw [e.low l (lt_next hf (by simp [h])), h]; nofun)
  · exact hf

theorem step_fresh {st : St} (hf : Fresh st) (op : Op) : Fresh (step st op) := by
  cases op with
  | styleText r ns => exact setStyleObj_fresh ((newBlock_spec st (some r) ns hf).1.fresh hf)
  | styleObj r x => exact setStyleObj_fresh hf
  | ruleText r ts ns =>
    have hf1 := setSelListObj_fresh ((newSelList_spec st (some r) ts hf).1.fresh hf) (r := r) (x := st.next)
    exact setStyleObj_fresh ((newBlock_spec _ (some r) ns hf1).1.fresh hf1)
  | blockText b ns => exact setBlockText_fresh hf
  | propText b n => exact setPropText_fresh hf
  | propObj b p => exact setPropObj_fresh hf
  | removeProp b n => exact removeProp_fresh hf
  | selectorText r ts => exact setSelectorText_fresh hf
  | selListObj r x => exact setSelListObj_fresh hf
  | selListText l ts => exact setSelListText_fresh hf
  | appendSelText l t => exact appendSelObj_fresh ((newSel_spec st (some l) t).1.fresh hf)
  | appendSelObj l s => exact appendSelObj_fresh hf
  | mediaText r => exact setMediaObj_fresh ((newMedia_spec st (some r)).1.fresh hf)
  | mediaObj r x => exact setMediaObj_fresh hf
  | mediaEdit m => exact hf
  | mkBlock ns => exact (newBlock_spec st none ns hf).1.fresh hf
  | mkProp n => exact (newProp_spec st none n).1.fresh hf
  | mkSelList ts => exact (newSelList_spec st none ts hf).1.fresh hf
  | mkSel t => exact (newSel_spec st none t).1.fresh hf
  | mkMedia => exact (newMedia_spec st none).1.fresh hf
  | mkRule ss ds m => exact (newRule_spec st ss ds m hf).1.fresh hf

/-! ### text assignment: the constructor already wrote the owner, so the fresh object may be adopted -/

theorem setStyleText_ok {st : St} (hf : Fresh st) {r0 r : Nat} (ns : List Nat) (hc : Consistent st r) :
    Consistent (setStyleText st r0 ns) r := by
  obtain ⟨e, h1, ps, h2, h3⟩ := newBlock_spec st (some r0) ns hf
  have hc1 := (e.pres hf).consistent hc
  refine setStyleObj_ok hc1 (adopt_of_parent hc1 ?_ ?_)
  · rw [h1, h2]; rfl
  · simp only [inner, h1, h2, List.all_eq_true]; exact h3

theorem newSelList_adopt_ok {st : St} (hf : Fresh st) {r0 r : Nat} (ts : List Nat) (hc : Consistent st r) :
    Consistent (setSelListObj (newSelList st (some r0) ts).1 r0 (newSelList st (some r0) ts).2) r := by
  obtain ⟨e, h1, ss, h2, h3⟩ := newSelList_spec st (some r0) ts hf
  have hc1 := (e.pres hf).consistent hc
  refine setSelListObj_ok hc1 (adopt_of_parent hc1 ?_ ?_)
  · rw [h1, h2]; rfl
  · simp only [inner, h1, h2, List.all_eq_true]; exact h3

theorem setSelectorText_ok {st : St} (hf : Fresh st) {r0 r : Nat} (ts : List Nat) (hc : Consistent st r) :
    Consistent (setSelectorText st r0 ts) r := by
  unfold setSelectorText; split
  · exact hc
  · exact newSelList_adopt_ok hf ts hc

theorem setRuleText_ok {st : St} (hf : Fresh st) {r0 r : Nat} (ts ns : List Nat) (hc : Consistent st r) :
    Consistent (setRuleText st r0 ts ns) r :=
  setStyleText_ok (setSelListObj_fresh ((newSelList_spec st (some r0) ts hf).1.fresh hf)) ns
    (newSelList_adopt_ok hf ts hc)

theorem setMediaText_ok {st : St} (hf : Fresh st) {r0 r : Nat} (hc : Consistent st r) :
    Consistent (setMediaText st r0) r := by
  obtain ⟨e, h1, h2⟩ := newMedia_spec st (some r0)
  have hc1 := (e.pres hf).consistent hc
  refine setMediaObj_ok hc1 (adopt_of_parent hc1 ?_ ?_)
  · rw [h1, h2]; rfl
  · simp only [inner, h1, h2]

theorem setBlockText_ok {st : St} (hf : Fresh st) {b r : Nat} (ns : List Nat) (hc : Consistent st r) :
    Consistent (setBlockText st b ns) r := by
  unfold setBlockText; split
  · next pr old hb =>
    obtain ⟨e, hps⟩ := newProps_spec (some b) ns st hf
    have k := e.pres hf
    exact replaceProps_ok (k.consistent hc) (k.at hb) (fun _ p hp => propOk_iff.2 (hps p hp))
  · exact hc

theorem setSelListText_ok {st : St} (hf : Fresh st) {l0 r : Nat} (ts : List Nat) (hc : Consistent st r) :
    Consistent (setSelListText st l0 ts) r := by
  unfold setSelListText; split
  · next pr old hb =>
    split
    · exact hc
    · obtain ⟨e, hss⟩ := newSels_spec (some l0) ts st hf
      have k := e.pres hf
      exact replaceSels_ok (k.consistent hc) (k.at hb) (fun _ p hp => selOk_iff.2 (hss p hp))
  · exact hc

theorem setPropText_ok {st : St} (hf : Fresh st) {b0 r : Nat} (n : Nat) (hc : Consistent st r) :
    Consistent (setPropText st b0 n) r := by
  unfold setPropText; split
  · split
    · exact hc
    · obtain ⟨e, h1, h2, h3⟩ := newProp_spec st (some b0) n
      have hc1 := (e.pres hf).consistent hc
      refine setPropObj_ok hc1 (adopt_of_parent hc1 ?_ ?_)
      · rw [h1, h2]; rfl
      · simp only [inner, h1, h2]; exact valueOk_iff.2 h3
  · exact hc

theorem removeProp_ok {st : St} {b r : Nat} (n : Nat) (hc : Consistent st r) : Consistent (removeProp st b n) r := by
  unfold removeProp; split
  · next pr old hb =>
    exact replaceProps_ok hc hb (fun h p hp => h p (List.mem_filter.1 hp).1)
  · exact hc

theorem appendSelText_ok {st : St} (hf : Fresh st) {l0 r : Nat} (t : Nat) (hc : Consistent st r) :
    Consistent (appendSelText st l0 t) r := by
  obtain ⟨e, h1, h2⟩ := newSel_spec st (some l0) t
  have hc1 := (e.pres hf).consistent hc
  refine appendSelObj_ok hc1 (adopt_of_parent hc1 ?_ ?_)
  · rw [h1, h2]; rfl
  · simp only [inner, h1, h2]

def Safe (st : St) (r : Nat) : Op → Prop
  | .styleObj c x | .selListObj c x | .mediaObj c x | .propObj c x | .appendSelObj c x => Adopt st r c x
  | _ => True

theorem step_ok {st : St} (hf : Fresh st) {r : Nat} (hc : Consistent st r) (op : Op) (hs : Safe st r op) :
    Consistent (step st op) r := by
  cases op with
  | styleText r0 ns => exact setStyleText_ok hf ns hc
  | styleObj r0 x => exact setStyleObj_ok hc hs
  | ruleText r0 ts ns => exact setRuleText_ok hf ts ns hc
  | blockText b ns => exact setBlockText_ok hf ns hc
  | propText b n => exact setPropText_ok hf n hc
  | propObj b0 p => exact setPropObj_ok hc hs
  | removeProp b n => exact removeProp_ok n hc
  | selectorText r0 ts => exact setSelectorText_ok hf ts hc
  | selListObj r0 x => exact setSelListObj_ok hc hs
  | selListText l ts => exact setSelListText_ok hf ts hc
  | appendSelText l t => exact appendSelText_ok hf t hc
  | appendSelObj l0 x => exact appendSelObj_ok hc hs
  | mediaText r0 => exact setMediaText_ok hf hc
  | mediaObj r0 x => exact setMediaObj_ok hc hs
  | mediaEdit m => exact hc
  | mkBlock ns => exact ((newBlock_spec st none ns hf).1.pres hf).consistent hc
  | mkProp n => exact ((newProp_spec st none n).1.pres hf).consistent hc
  | mkSelList ts => exact ((newSelList_spec st none ts hf).1.pres hf).consistent hc
  | mkSel t => exact ((newSel_spec st none t).1.pres hf).consistent hc
  | mkMedia => exact ((newMedia_spec st none).1.pres hf).consistent hc
  | mkRule ss ds m => exact ((newRule_spec st ss ds m hf).1.pres hf).consistent hc

def SafeAll (st : St) (r : Nat) : List Op → Prop
  | [] => True
  | op :: ops => Safe st r op ∧ SafeAll (step st op) r ops

theorem run_ok (r : Nat) (ops : List Op) : ∀ st : St, Fresh st → Consistent st r → SafeAll st r ops →
    Consistent (run st ops) r ∧ Fresh (run st ops) := by
  induction ops with
  | nil => intro st hf hc _; exact ⟨hc, hf⟩
  | cons op ops ih =>
    intro st hf hc hs
    exact ih (step st op) (step_fresh hf op) (step_ok hf hc op hs.1) hs.2

def Op.adopts : Op → Bool
  | .styleObj .. | .selListObj .. | .mediaObj .. | .propObj .. | .appendSelObj .. => true
  | _ => false

theorem safeAll_of_not_adopts (r : Nat) (ops : List Op) (h : ∀ op ∈ ops, op.adopts = false) :
    ∀ st : St, SafeAll st r ops := by
  induction ops with
  | nil => intro _; trivial
  | cons op ops ih =>
    intro st
    refine ⟨?_, ih (fun o ho => h o (by simp [ho])) _⟩
    have hop := h op (by simp)
    cases op <;> first | trivial | cases hop

end CssVerif.Owners
