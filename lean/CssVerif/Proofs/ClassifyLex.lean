/-
The skeleton shared by the per-lexeme theorems of Props/C09.lean.  A lexeme `found` in front of `rest` is
returned as one token of production `p` when (1) its first character is off the fast path, (2) every
production before `p` is passed over, (3) the longest match of `p` on `found ++ rest` leaves `rest`.
`step_lex` finds `p` by its position in the table, `step_lex_named` by its name, when no earlier
production can start with the first character.  What `finish` then makes of `found` depends on the token
type and is stated in Props/C09.lean.  At the end: the expression of a fixed spelling (`litRe`), where it
matches and where it fails.
-/
import CssVerif.Proofs.ClassifySeq
namespace CssVerif
open Re

theorem forall_head {P : Nat → Prop} {s : Text} (h : ∀ x r, s = x :: r → P x) : ∀ d ∈ s.head?, P d := by
  cases s with
  | nil => intro d hd; cases hd
  | cons x r => intro d hd; cases hd; exact h x r rfl

theorem head_backoffs {l : List Text} {run rest : Text} (h : l = backoffs run rest) : l.head? = some rest :=
  h ▸ backoffs_head run rest

theorem not_contains_of_all {l : List Nat} {P : Nat → Bool} (h : l.all (fun f => !P f) = true) {x : Nat}
    (hx : P x = true) : l.contains x = false := by
  cases hc : l.contains x with
  | false => rfl
  | true =>
    have := List.all_eq_true.mp h x (by simpa using hc)
    simp [hx] at this

theorem Re.IsTest.agree {a : Re} {P Q : Nat → Bool} (hP : IsTest a P) (hQ : IsTest a Q) (c : Nat) :
    P c = Q c := by
  cases hp : P c with
  | false =>
    cases hq : Q c with
    | false => rfl
    | true => cases (hP.neg hp []).symm.trans (hQ.pos hq [])
  | true =>
    cases hq : Q c with
    | true => rfl
    | false => cases (hP.pos hp []).symm.trans (hQ.neg hq [])

section
variable {T : Tables} {cfg : Cfg} (hfs : cfg.fullsheet = false) {st : St} (found rest : Text) {c : Nat} {s : Text}
  (hr : st.rest = found ++ rest) (hcs : found ++ rest = c :: s) (hfast : T.fastChars.contains c = false)
include hfs hr hcs hfast

theorem step_lex (pre : List Prod) {post : List Prod} (p : Prod) (hT : T.prods = pre ++ p :: post)
    (hpre : ∀ q ∈ pre, Skipped st q) (hna : p.notAfter = none)
    (hm : (ms p.re (found ++ rest)).head? = some rest)
    (hid : (p.name == "IDENT") = false ∨ (rest.head? == some 40) = false) :
    step T cfg st = some (finish T cfg st p.name found rest) := by
  have hm' : matchProd p st.prev st.rest = some rest := hr ▸ matchProd_some_of_head p hna _ _ _ hm
  have hcons : consumed st.rest rest = found := by rw [hr]; simp [consumed]
  have hid' : (p.name == "IDENT" && lowerT found != [97, 110, 100] && rest.head? == some 40) = false := by
    rcases hid with h | h <;> simp [h]
  unfold step
  rw [hr.trans hcs]
  simp only [hfast, Bool.false_eq_true, if_false]
  rw [hT, tryProds_skip T cfg hfs st pre (p :: post) hpre]
  simp only [tryProds, hfs, Bool.false_and, Bool.false_eq_true, if_false, hm', hcons, hid']

theorem step_lex_none (pre : List Prod) {post : List Prod} (p : Prod) (hT : T.prods = pre ++ p :: post)
    (hpre : ∀ q ∈ pre, matchProd q st.prev (found ++ rest) = none) (hna : p.notAfter = none)
    (hm : (ms p.re (found ++ rest)).head? = some rest)
    (hid : (p.name == "IDENT") = false ∨ (rest.head? == some 40) = false) :
    step T cfg st = some (finish T cfg st p.name found rest) :=
  step_lex hfs found rest hr hcs hfast pre p hT (fun q hq => Or.inl (hr ▸ hpre q hq)) hna hm hid

theorem step_lex_named (n : String) (hn : (n == "IDENT") = false) (he : earlierCannotStart T n c = true)
    {p : Prod} (hp : findProd T.prods n = some p) (hna : p.notAfter = none)
    (hm : (ms p.re (found ++ rest)).head? = some rest) :
    step T cfg st = some (finish T cfg st p.name found rest) := by
  obtain ⟨pre, p', post, hps, hfind, hn', hpre⟩ := earlierCannotStart_split T.prods n c he
  rw [hp] at hfind
  cases hfind
  have hname : p.name = n := by simpa using hn'
  exact step_lex_none hfs found rest hr hcs hfast pre p hps
    (fun q hq => hcs ▸ matchProd_none_of_canStart q st.prev c s (hpre q hq)) hna hm (Or.inl (hname ▸ hn))

end

/-- the expression of a fixed spelling `a :: l`: one single-character class per character -/
def litRe : Nat → Text → Re
  | a, [] => .cls false [(a, a)]
  | a, b :: l => .seq (.cls false [(a, a)]) (litRe b l)

theorem ms_litRe (rest : Text) : ∀ (l : Text) (a : Nat), ms (litRe a l) (a :: l ++ rest) = [rest] := by
  intro l
  induction l with
  | nil => exact fun a => (isTest_char a).pos (beq_self_eq_true a) rest
  | cons b l ih =>
    intro a
    rw [litRe, List.cons_append, ms_seq_single _ _ _ _ ((isTest_char a).pos (beq_self_eq_true a) _)]
    exact ih b

theorem ms_litRe_nil (a b : Nat) (l s : Text) (h : s.head? ≠ some b) : ms (litRe a (b :: l)) (a :: s) = [] := by
  rw [litRe, ms_seq_single _ _ _ _ ((isTest_char a).pos (beq_self_eq_true a) _)]
  cases l with
  | nil => exact (isTest_char b).stop s (head_ne h)
  | cons d l => exact (isTest_char b).seq_stop _ s (head_ne h)

end CssVerif
