import CssVerif.Proofs.ResolveNF
/-!
`resolveImports`: what the flat sheet holds and how it is arranged, for import trees of any depth and width.

The three projections of a sheet — its @import rules, whether it has an @namespace rule, and its
"body" rules (everything `add` appends at the end) — are computed from the import tree by a
structural traversal (`sumL`); `resolve_yields` shows that the flat sheet is arranged (`NF`) and that
its projections are those of the traversal.
-/
namespace CssVerif.Resolve

/-- what a sheet contributes to a flat sheet -/
structure Sum where
  imps : List Rule     -- @import rules left
  ns : Bool            -- some @namespace rule
  body : List Rule
  deriving Repr

/-- the flat sheet holds something that is not a comment or style rule: an @namespace rule, an @import
rule that was left, or such a body rule -/
def Sum.hard (s : Sum) : Bool := s.ns || !s.imps.isEmpty || s.body.any (fun x => !x.canWrap)

/-- a loaded @import is kept as a rule when it is media-restricted and its flat sheet holds something
that is not a comment or style rule -/
def Sum.keptAs (s : Sum) (q : Nat) : Bool := q != 0 && s.hard

def Sum.nil : Sum := ⟨[], false, []⟩
def Sum.app (a b : Sum) : Sum := ⟨a.imps ++ b.imps, a.ns || b.ns, a.body ++ b.body⟩

mutual
def Rule.sum : Rule → Sum
  | .charset _ => .nil
  | .ns _ _ => ⟨[], true, []⟩
  | .imp id q none => ⟨[.imp id q none], false, []⟩
  | .imp id q (some sub) =>
    let s := sumL sub
    if s.keptAs q then ⟨[.imp id q (some sub)], false, [.start id]⟩
    else if q = 0 then ⟨s.imps, s.ns, .start id :: s.body⟩
    else ⟨[], false, [.start id, .media q s.body]⟩
  | .media q rs => ⟨[], false, [.media q rs]⟩
  | .comment i => ⟨[], false, [.comment i]⟩
  | .start i => ⟨[], false, [.start i]⟩
  | .style i u => ⟨[], false, [.style i u]⟩
  | .block k i => ⟨[], false, [.block k i]⟩
def sumL : List Rule → Sum
  | [] => .nil
  | r :: rs => r.sum.app (sumL rs)
end

theorem sumL_cons (r : Rule) (rs : Sheet) : sumL (r :: rs) = r.sum.app (sumL rs) := by simp [sumL]

def flatBody (s : Sheet) : List Rule := (sumL s).body
def flatImports (s : Sheet) : List Rule := (sumL s).imps
/-- this loaded @import stays an @import rule of the flat sheet -/
def kept (q : Nat) (sub : Sheet) : Bool := (sumL sub).keptAs q
def flatHard (s : Sheet) : Bool := (sumL s).hard

theorem kept_zero (sub : Sheet) : kept 0 sub = false := rfl

theorem sum_loaded (i q : Nat) (sub : Sheet) : (Rule.imp i q (some sub)).sum =
    if kept q sub then ⟨[.imp i q (some sub)], false, [.start i]⟩
    else if q = 0 then ⟨flatImports sub, (sumL sub).ns, .start i :: flatBody sub⟩
    else ⟨[], false, [.start i, .media q (flatBody sub)]⟩ := by
  simp only [Rule.sum]; rfl

/-- the outcome `res` of processing something whose traversal is `S`, starting from the arranged target
`t0`; the only exception among the outcomes is NoModificationAllowedErr -/
def Outcome (res : Res) (t0 : Sheet) (S : Sum) : Prop :=
  match res with
  | .ok t => Extends t0 S.imps S.ns S.body t
  | .raised e => e = .noModification

theorem outcome_trans {t0 t1 : Sheet} {S1 S2 : Sum} {res : Res} (h1 : Outcome (.ok t1) t0 S1) (h2 : Outcome res t1 S2) :
    Outcome res t0 (S1.app S2) := by
  cases res with
  | raised e => exact h2
  | ok t =>
    obtain ⟨_, f1, f2, f3⟩ := h1
    obtain ⟨g0, g1, g2, g3⟩ := h2
    exact ⟨g0, by rw [g1, f1]; simp [Sum.app], by rw [g2, f2]; simp [Sum.app],
      by rw [g3, f3]; simp [Sum.app, Bool.or_assoc]⟩

theorem outcome_add {t : Sheet} (r : Rule) (hn : NF t) (hr : r.isCharset = false) :
    Outcome (liftAdd (add t r)) t ⟨if r.isImport then [r] else [], r.isNs, if r.isBody then [r] else []⟩ := by
  cases ha : add t r with
  | none => rfl
  | some t' => exact add_spec hn hr ha

/-- `for r in importedSheet: target.add(r)` -/
theorem outcome_addAll : ∀ (rs t : Sheet), NF t → (∀ x ∈ rs, x.isCharset = false) →
    Outcome (liftAdd (addAll t rs)) t ⟨imports rs, hasNs rs, body rs⟩
  | [], t, hn, _ => Extends.refl hn
  | r :: rs, t, hn, hc => by
    have h1 := outcome_add r hn (hc r (by simp))
    unfold addAll
    cases ha : add t r with
    | none => rfl
    | some t1 =>
      rw [ha] at h1
      have := outcome_trans h1 (outcome_addAll rs t1 h1.nf (fun x hx => hc x (by simp [hx])))
      simp only [Sum.app] at this
      rw [imports_cons, body_cons]
      exact this

/-- `for r in importedSheet: mediaproxy.add(r)`: all or nothing -/
theorem wrapAll_eq : ∀ (rs k : Sheet),
    wrapAll k rs = if rs.any Rule.mediaForbids then none else some (k ++ rs)
  | [], k => by simp [wrapAll]
  | r :: rs, k => by
    cases hf : r.mediaForbids with
    | true => simp [wrapAll, mediaAdd, hf]
    | false => simp [wrapAll, mediaAdd, hf, wrapAll_eq rs]

/-- `keepimport` (some rule is not a comment or style rule) read off the projections -/
theorem any_hard_eq : ∀ (t : Sheet), (∀ x ∈ t, x.isCharset = false) →
    t.any (fun x => !x.canWrap) = (hasNs t || !(imports t).isEmpty || (body t).any (fun x => !x.canWrap))
  | [], _ => rfl
  | r :: rs, hc => by
    have ih := any_hard_eq rs (fun x hx => hc x (by simp [hx]))
    have hr := hc r (by simp)
    unfold hasNs imports body at ih ⊢
    rw [List.any_cons, ih]
    cases r with
    | charset e => cases hr
    | _ => simp only [List.filter_cons, List.any_cons, List.isEmpty_cons, Rule.canWrap, Rule.isNs, Rule.isBody,
        Rule.isCharset, Rule.isImport, Bool.not_true, Bool.not_false, Bool.true_or, Bool.false_or, Bool.or_true,
        Bool.or_false, Bool.false_eq_true, if_true, if_false]

def Rule.isLoaded : Rule → Bool | .imp _ _ (some _) => true | _ => false

theorem step_simple (rec : Sheet → Res) (t : Sheet) (r : Rule) (hc : r.isCharset = false) (hl : r.isLoaded = false) :
    step rec t r = liftAdd (add t r) ∧
    r.sum = ⟨if r.isImport then [r] else [], r.isNs, if r.isBody then [r] else []⟩ := by
  cases r with
  | charset e => cases hc
  | imp i q tg =>
    cases tg with
    | none => exact ⟨rfl, rfl⟩
    | some sub => cases hl
  | _ => exact ⟨rfl, rfl⟩

theorem step_outcome (rec : Sheet → Res) (t0 : Sheet) (r : Rule) (hn : NF t0)
    (hrec : ∀ i q sub, r = .imp i q (some sub) → Outcome (rec sub) [] (sumL sub)) :
    Outcome (step rec t0 r) t0 r.sum := by
  have simple : r.isCharset = false → r.isLoaded = false → Outcome (step rec t0 r) t0 r.sum := by
    intro hc hl
    obtain ⟨e1, e2⟩ := step_simple rec t0 r hc hl
    rw [e1, e2]
    exact outcome_add r hn hc
  cases r with
  | charset e => exact Extends.refl hn
  | imp i q tg =>
    cases tg with
    | none => exact simple rfl rfl
    | some sub =>
      have hsub := hrec i q sub rfl
      -- the START comment, then what becomes of the import
      have h1 : Outcome (.ok (t0 ++ [Rule.start i])) t0 ⟨[], false, [.start i]⟩ := outcome_add (.start i) hn rfl
      simp only [step, add_start]
      cases hres : rec sub with
      | raised e =>
        -- the nested call never raises HierarchyRequestErr: the `except` branch is dead
        rw [hres] at hsub
        cases hsub
        rfl
      | ok imported =>
        rw [hres] at hsub
        obtain ⟨s1, s2, s3⟩ := Extends.of_nil hsub
        have s4 := NF_noCharset hsub.nf
        simp only []
        by_cases hq : q = 0
        · -- media `all`: every rule of the imported flat sheet goes to the target
          subst hq
          rw [sum_loaded, kept_zero]
          have := outcome_addAll imported _ h1.nf s4
          rw [s1, s2, s3] at this
          exact outcome_trans h1 this
        · have hhard : (imported.any fun x => !x.canWrap) = (sumL sub).hard := by
            rw [any_hard_eq imported s4, s3, s2, s1]; rfl
          simp only [hq, if_false]
          rw [hhard]
          cases hh : (sumL sub).hard with
          | true =>
            have hk : kept q sub = true := by simp [kept, Sum.keptAs, hh, hq]
            rw [sum_loaded, hk]
            exact outcome_trans (S2 := ⟨[.imp i q (some sub)], false, []⟩) h1
              (outcome_add (.imp i q (some sub)) h1.nf rfl)
          | false =>
            -- `CSSMediaRule.add` refuses none of the rules that passed the check
            have hk : kept q sub = false := by simp [kept, Sum.keptAs, hh]
            have hw : ∀ x ∈ imported, x.canWrap = true := by
              rw [← hhard, List.any_eq_false] at hh
              intro x hx; simpa using hh x hx
            have hkids : imported = (sumL sub).body := by
              rw [← s2, body, List.filter_eq_self.2 (fun x hx => isBody_of_canWrap (hw x hx))]
            simp only [Bool.false_eq_true, if_false, wrapAll_eq, List.nil_append, sum_loaded, hk, hq,
              any_neg (fun x hx => mediaForbids_of_canWrap (hw x hx))]
            rw [hkids]
            exact outcome_trans (S2 := ⟨[], false, [.media q (flatBody sub)]⟩) h1
              (outcome_add (.media q (flatBody sub)) h1.nf rfl)
  | _ => exact simple rfl rfl

theorem run_outcome (rec : Sheet → Res) : ∀ (s t0 : Sheet), NF t0 →
    (∀ i q sub, .imp i q (some sub) ∈ s → Outcome (rec sub) [] (sumL sub)) →
    Outcome (run rec s t0) t0 (sumL s)
  | [], t0, hn, _ => Extends.refl hn
  | r :: rs, t0, hn, hrec => by
    have hs := step_outcome rec t0 r hn (fun i q sub h => hrec i q sub (by simp [h]))
    rw [sumL_cons]
    unfold run
    cases hst : step rec t0 r with
    | ok t1 =>
      rw [hst] at hs
      exact outcome_trans hs (run_outcome rec rs t1 hs.nf (fun i q sub hm => hrec i q sub (by simp [hm])))
    | raised e => rw [hst] at hs; exact hs

theorem heightL_pos : ∀ (s : Sheet), 1 ≤ heightL s
  | [] => by simp [heightL]
  | r :: rs => by have := heightL_pos rs; simp only [heightL]; omega

theorem height_lt_of_mem : ∀ (s : Sheet) (i q : Nat) (sub : Sheet), .imp i q (some sub) ∈ s → heightL sub < heightL s
  | [], _, _, _, h => by simp at h
  | x :: xs, i, q, sub, h => by
    simp only [heightL]
    rcases List.mem_cons.1 h with h | h
    · subst h; simp only [Rule.height]; omega
    · have := height_lt_of_mem xs i q sub h; omega

/-- **the flat sheet is arranged, and it is the traversal of the import tree** (any depth, any width) -/
theorem resolve_yields : ∀ (fuel : Nat) (s : Sheet), heightL s ≤ fuel → Outcome (resolve fuel s) [] (sumL s)
  | 0, s, h => by have := heightL_pos s; omega
  | fuel + 1, s, h => by
    simp only [resolve]
    apply run_outcome _ s [] NF_nil
    intro i q sub hm
    have := height_lt_of_mem s i q sub hm
    exact resolve_yields fuel sub (by omega)

theorem run_congr (rec1 rec2 : Sheet → Res) : ∀ (s t : Sheet),
    (∀ i q sub, .imp i q (some sub) ∈ s → rec1 sub = rec2 sub) → run rec1 s t = run rec2 s t
  | [], t, _ => rfl
  | r :: rs, t, h => by
    have hstep : step rec1 t r = step rec2 t r := by
      cases r with
      | imp i q tg =>
        cases tg with
        | none => rfl
        | some sub => simp only [step]; rw [h i q sub (by simp)]
      | _ => rfl
    unfold run
    rw [hstep]
    cases step rec2 t r with
    | ok t' => exact run_congr rec1 rec2 rs t' (fun i q sub hm => h i q sub (by simp [hm]))
    | raised e => rfl

theorem resolve_enough : ∀ (f1 f2 : Nat) (s : Sheet), heightL s ≤ f1 → heightL s ≤ f2 → resolve f1 s = resolve f2 s
  | 0, _, s, h, _ => by have := heightL_pos s; omega
  | _ + 1, 0, s, _, h => by have := heightL_pos s; omega
  | f1 + 1, f2 + 1, s, h1, h2 => by
    simp only [resolve]
    apply run_congr
    intro i q sub hm
    have := height_lt_of_mem s i q sub hm
    exact resolve_enough f1 f2 sub (by omega) (by omega)

theorem kept_false (q : Nat) (sub : Sheet) (hq : q ≠ 0) (hk : kept q sub = false) :
    (sumL sub).ns = false ∧ flatImports sub = [] ∧ (flatBody sub).any (fun x => !x.canWrap) = false := by
  have hq' : (q != 0) = true := by simpa using hq
  have hk : ((q != 0) && ((sumL sub).ns || !(flatImports sub).isEmpty || (flatBody sub).any (fun x => !x.canWrap))) =
      false := hk
  rw [hq', Bool.true_and, Bool.or_eq_false_iff, Bool.or_eq_false_iff] at hk
  exact ⟨hk.1.1, by simpa using hk.1.2, hk.2⟩

theorem sumL_append : ∀ (a b : Sheet), sumL (a ++ b) = (sumL a).app (sumL b)
  | [], b => by simp [sumL, Sum.nil, Sum.app]
  | r :: rs, b => by
    rw [List.cons_append, sumL_cons, sumL_cons, sumL_append rs b]
    simp [Sum.app, Bool.or_assoc]

theorem flatBody_append (a b : Sheet) : flatBody (a ++ b) = flatBody a ++ flatBody b := by
  simp [flatBody, sumL_append, Sum.app]
theorem flatImports_append (a b : Sheet) : flatImports (a ++ b) = flatImports a ++ flatImports b := by
  simp [flatImports, sumL_append, Sum.app]

theorem resolve_ok {s t : Sheet} (h : resolveImports s = .ok t) :
    Extends [] (flatImports s) (sumL s).ns (flatBody s) t := by
  have := resolve_yields (heightL s) s (Nat.le_refl _)
  unfold resolveImports at h
  rw [h] at this
  exact this

/-- of the exceptions only NoModificationAllowedErr leaves `resolveImports`: not HierarchyRequestErr, and
the model does not run out of fuel -/
theorem resolve_raised {s : Sheet} {e : Err} (h : resolveImports s = .raised e) : e = .noModification := by
  have := resolve_yields (heightL s) s (Nat.le_refl _)
  unfold resolveImports at h
  rw [h] at this
  exact this

theorem run_noLoaded (rec : Sheet → Res) : ∀ (s t0 : Sheet),
    (∀ r ∈ s, r.isLoaded = false ∧ r.isCharset = false) → run rec s t0 = liftAdd (addAll t0 s)
  | [], t0, _ => rfl
  | r :: rs, t0, h => by
    unfold run addAll
    rw [(step_simple rec t0 r (h r (by simp)).2 (h r (by simp)).1).1]
    cases add t0 r with
    | none => rfl
    | some t1 => exact run_noLoaded rec rs t1 (fun r' hr' => h r' (by simp [hr']))

theorem heightL_noLoaded : ∀ (t : Sheet), (∀ r ∈ t, r.isLoaded = false) → heightL t = 1
  | [], _ => rfl
  | r :: rs, h => by
    have ih := heightL_noLoaded rs (fun r' hr' => h r' (by simp [hr']))
    have hr := h r (by simp)
    have : r.height = 0 := by
      cases r with
      | imp i q tg =>
        cases tg with
        | none => simp [Rule.height]
        | some sub => simp [Rule.isLoaded] at hr
      | _ => simp [Rule.height]
    simp [heightL, this, ih]

theorem resolve_fixed {t : Sheet} (hn : NF t) (hl : ∀ r ∈ t, r.isLoaded = false) : resolveImports t = .ok t := by
  unfold resolveImports
  rw [heightL_noLoaded t hl]
  simp only [resolve]
  rw [run_noLoaded _ t [] (fun r hr => ⟨hl r hr, NF_noCharset hn r hr⟩), addAll_rebuild hn]
  rfl

/-- **idempotence**: a flat sheet without loaded @import is a fixed point -/
theorem resolve_idempotent (s t : Sheet) (h : resolveImports s = .ok t) (hl : ∀ r ∈ t, r.isLoaded = false) :
    resolveImports t = .ok t := resolve_fixed (resolve_ok h).nf hl

theorem imports_sublist (t : Sheet) : (imports t).Sublist t := List.filter_sublist

/-! ### trees in which every loaded @import can be inlined -/

def Rule.isUnloaded : Rule → Bool | .imp _ _ none => true | _ => false

mutual
/-- the naive document-order traversal: every loaded @import expanded in place -/
def Rule.expand : Rule → List Rule
  | .charset _ => []
  | .ns _ _ => []
  | .imp _ _ none => []
  | .imp i q (some sub) => .start i :: (if q = 0 then expandL sub else [.media q (expandL sub)])
  | .media q rs => [.media q rs]
  | .comment i => [.comment i]
  | .start i => [.start i]
  | .style i u => [.style i u]
  | .block k i => [.block k i]
def expandL : List Rule → List Rule
  | [] => []
  | r :: rs => r.expand ++ expandL rs
end

mutual
/-- may stand in a sheet that is imported with a media restriction: @charset, comments, style rules and
loaded unrestricted @imports of such sheets -/
def Rule.plain : Rule → Bool
  | .charset _ => true
  | .comment _ => true
  | .start _ => true
  | .style _ _ => true
  | .imp _ q (some sub) => q == 0 && plainL sub
  | _ => false
def plainL : List Rule → Bool
  | [] => true
  | r :: rs => r.plain && plainL rs
end

mutual
/-- every media-restricted loaded @import, at any depth, imports a plain sheet -/
def Rule.inlinable : Rule → Bool
  | .imp _ q (some sub) => inlinableL sub && (q == 0 || plainL sub)
  | _ => true
def inlinableL : List Rule → Bool
  | [] => true
  | r :: rs => r.inlinable && inlinableL rs
end

mutual
theorem Rule.plain_sum : ∀ (r : Rule), r.plain = true →
    r.sum = ⟨[], false, r.expand⟩ ∧ r.expand.all Rule.canWrap = true
  | .charset _, _ => ⟨rfl, rfl⟩
  | .comment _, _ => ⟨rfl, rfl⟩
  | .start _, _ => ⟨rfl, rfl⟩
  | .style _ _, _ => ⟨rfl, rfl⟩
  | .imp i q (some sub), h => by
    simp only [Rule.plain, Bool.and_eq_true, beq_iff_eq] at h
    obtain ⟨hq, hp⟩ := h
    subst hq
    obtain ⟨h1, h2⟩ := plainL_sum sub hp
    simp only [sum_loaded, kept_zero, flatBody, flatImports, Rule.expand, if_true, Bool.false_eq_true, if_false]
    rw [h1]
    simp [Rule.canWrap, h2]
  | .imp _ _ none, h => by cases h
  | .ns _ _, h => by cases h
  | .media _ _, h => by cases h
  | .block _ _, h => by cases h
theorem plainL_sum : ∀ (s : Sheet), plainL s = true →
    sumL s = ⟨[], false, expandL s⟩ ∧ (expandL s).all Rule.canWrap = true
  | [], _ => by simp [sumL, Sum.nil, expandL]
  | r :: rs, h => by
    simp only [plainL, Bool.and_eq_true] at h
    obtain ⟨h1, h2⟩ := Rule.plain_sum r h.1
    obtain ⟨h3, h4⟩ := plainL_sum rs h.2
    simp only [sumL, expandL, h1, h3, Sum.app, List.all_append, h2, h4]
    simp
end

mutual
theorem Rule.inlinable_sum : ∀ (r : Rule), r.inlinable = true →
    r.sum.body = r.expand ∧ r.sum.imps.all Rule.isUnloaded = true
  | .imp i q (some sub), h => by
    simp only [Rule.inlinable, Bool.and_eq_true, Bool.or_eq_true, beq_iff_eq] at h
    obtain ⟨hi, hq⟩ := h
    obtain ⟨h2, h3⟩ := inlinableL_sum sub hi
    by_cases hq0 : q = 0
    · subst hq0
      simp [sum_loaded, kept_zero, flatBody, flatImports, Rule.expand, h2, h3]
    · have hp := hq.resolve_left hq0
      obtain ⟨p1, p2⟩ := plainL_sum sub hp
      have hk : kept q sub = false := by
        have hw : (expandL sub).any (fun x => !x.canWrap) = false :=
          any_neg fun x hx => by rw [List.all_eq_true.1 p2 x hx]; rfl
        rw [kept, p1]; simp [Sum.keptAs, Sum.hard, hw]
      simp only [sum_loaded, hk, flatBody, Rule.expand, hq0, if_false, Bool.false_eq_true]
      rw [p1]; simp
  | .imp _ _ none, _ => ⟨rfl, rfl⟩
  | .charset _, _ => ⟨rfl, rfl⟩
  | .ns _ _, _ => ⟨rfl, rfl⟩
  | .media _ _, _ => ⟨rfl, rfl⟩
  | .comment _, _ => ⟨rfl, rfl⟩
  | .start _, _ => ⟨rfl, rfl⟩
  | .style _ _, _ => ⟨rfl, rfl⟩
  | .block _ _, _ => ⟨rfl, rfl⟩
theorem inlinableL_sum : ∀ (s : Sheet), inlinableL s = true →
    (sumL s).body = expandL s ∧ (sumL s).imps.all Rule.isUnloaded = true
  | [], _ => by simp [sumL, Sum.nil, expandL]
  | r :: rs, h => by
    simp only [inlinableL, Bool.and_eq_true] at h
    obtain ⟨h2, h3⟩ := Rule.inlinable_sum r h.1
    obtain ⟨h5, h6⟩ := inlinableL_sum rs h.2
    simp [sumL, expandL, Sum.app, h2, h5, List.all_append, h3, h6]
end

end CssVerif.Resolve
