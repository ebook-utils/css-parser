/-
The inverse of the css codec WITHOUT an encoding argument on the decoder side: `encode t none`
chooses the encoding from the text (`detectUnicode`), `decode b none` has to find it again in the
bytes (`detectStr`).  This works when the inner codec writes ASCII text as the same bytes
(`AsciiTransparent`), so that the `@charset "name"` head of the text is literally the head of the
bytes.  At the end: the inner codecs `idInner` and `toyInner` of the counterexamples and non-vacuity checks.
-/
import CssVerif.Proofs.CodecEnc
namespace CssVerif.Codec

attribute [local irreducible] charsetPrefix utf8

/-- the inner codec for the name `e` exists, round-trips, and writes an ASCII prefix of the text as
the same bytes (true of UTF-8, Latin-1, the Windows code pages, …; false of UTF-16/32, of
`utf-8-sig` (which writes a byte-order mark first) and of EBCDIC code pages).  Nothing is assumed
about what follows the ASCII prefix. -/
structure AsciiTransparent (I : Inner) (e : Text) : Prop where
  known : I.known e = true
  roundtrip : ∀ (t : Text) (b : Bytes), I.encodeAll e t = some b → I.decodeAll e b = some t
  ascii_prefix : ∀ (p r : Text) (b : Bytes), (∀ c ∈ p, c < 128) → I.encodeAll e (p ++ r) = some b →
    ∃ b', b = p ++ b'

/-- the inner codec for a `utf-8-sig` spelling `e` writes the UTF-8 byte-order mark first, and the
decoder registered under the canonical name `utf-8-sig` (the name the byte detector answers) reads
it back -/
structure SigCodec (I : Inner) (e : Text) : Prop where
  known_sig : I.known (ofStr "utf-8-sig") = true
  bom : ∀ (t : Text) (b : Bytes), I.encodeAll e t = some b → ∃ b', b = 0xEF :: 0xBB :: 0xBF :: b'
  roundtrip : ∀ (t : Text) (b : Bytes), I.encodeAll e t = some b → I.decodeAll (ofStr "utf-8-sig") b = some t

theorem decode_none_eq (I : Inner) (b : Bytes) (e : Text) (f : Bool) (hd : (detectStr b true).1 = some e) :
    decode I b none f = if isCss e then .error .value else decodeWith I e b := by
  unfold decode
  simp only [hd, Option.getD_some, Option.map_some, Option.isNone_none, Bool.true_or, Bool.true_and]

theorem decode_none_of_detect (I : Inner) (b : Bytes) (e t : Text) (f : Bool)
    (hd : (detectStr b true).1 = some e) (hcss : isCss e = false) (hk : I.known e = true)
    (hdec : I.decodeAll e b = some t) :
    decode I b none f = .ok ((fixEncoding t e true).getD t) := by
  rw [decode_none_eq I b e f hd, hcss, decodeWith, hk, hdec]
  rfl

theorem detectU_explicit {t e : Text} {f : Bool} (h : detectUnicode t f = (some e, true)) :
    ∃ rest, t = charsetPrefix ++ e ++ 34 :: rest ∧ ∀ c ∈ e, c ≠ 34 := by
  rcases head_cases t with ⟨n, rest, rfl, hq⟩ | ⟨s, rfl, hq⟩ | hp
  · rw [detectU_head n rest f hq] at h
    cases h
    exact ⟨rest, rfl, hq⟩
  · rw [detectU_open s f hq] at h; cases h
  · rw [detectU_nohead t f hp] at h
    split at h <;> cases h

theorem chosenEnc_head (e rest : Text) (hq : ∀ c ∈ e, c ≠ 34) :
    chosenEnc (charsetPrefix ++ e ++ 34 :: rest) = e := by
  rw [chosenEnc, detectU_head e rest true hq]
  rfl

theorem chosenEnc_nohead {t : Text} (h : (detectUnicode t true).2 = false) : chosenEnc t = utf8 := by
  rw [chosenEnc]
  rcases head_cases t with ⟨n, rest, rfl, hq⟩ | ⟨s, rfl, hq⟩ | hp
  · rw [detectU_head n rest true hq] at h; cases h
  · rw [detectU_open s true hq]; rfl
  · rw [detectU_nohead t true hp]; rfl

theorem fix_nohead_final {t : Text} (h : (detectUnicode t true).2 = false) (e : Text) :
    fixEncoding t e true = some t := by
  rcases head_cases t with ⟨n, rest, rfl, hq⟩ | ⟨s, rfl, hq⟩ | hp
  · rw [detectU_head n rest true hq] at h; cases h
  · rw [fix_open s e true hq]; rfl
  · rw [fix_nohead t e true hp]; simp

theorem head_bytes (I : Inner) (e rest : Text) (b : Bytes) (tr : AsciiTransparent I e)
    (ha : ∀ c ∈ e, c < 128) (h : I.encodeAll e (charsetPrefix ++ e ++ 34 :: rest) = some b) :
    ∃ b', b = charsetPrefix ++ e ++ 34 :: b' := by
  have hp : ∀ c ∈ charsetPrefix ++ e ++ [34], c < 128 := by
    simp only [List.mem_append, List.mem_singleton]
    rintro c ((hc | hc) | rfl)
    · rw [charsetPrefix_eq] at hc; revert c; decide
    · exact ha c hc
    · decide
  obtain ⟨b', rfl⟩ := tr.ascii_prefix _ rest b hp (by simpa using h)
  exact ⟨b', by simp⟩

theorem encode_decode_head (I : Inner) (e rest : Text) (b : Bytes) (tr : AsciiTransparent I e)
    (hq : ∀ c ∈ e, c ≠ 34) (ha : ∀ c ∈ e, c < 128) (hs : isUtf8Sig e = false)
    (h : encode I (charsetPrefix ++ e ++ 34 :: rest) none = .ok b) (f : Bool) :
    decode I b none f = .ok (charsetPrefix ++ e ++ 34 :: rest) := by
  simp only [encode_none_eq, chosenEnc_head e rest hq, hs, Bool.false_eq_true, if_false] at h
  obtain ⟨hcss, hk, henc⟩ := encodeWith_ok h
  obtain ⟨b', hb'⟩ := head_bytes I e rest b tr ha henc
  have hd : (detectStr b true).1 = some e := by rw [hb', detect_head e b' true hq]
  rw [decode_none_of_detect I b e _ f hd hcss hk (tr.roundtrip _ _ henc), fix_head e rest e true hq]
  simp [written, hs]

theorem encode_nohead (I : Inner) (t : Text) (b : Bytes) (hn : (detectUnicode t true).2 = false)
    (h : encode I t none = .ok b) : I.encodeAll utf8 t = some b := by
  simp only [encode_none_eq, chosenEnc_nohead hn, show isUtf8Sig utf8 = false by decide +kernel,
    Bool.false_eq_true, if_false] at h
  exact (encodeWith_ok h).2.2

theorem encode_decode_nohead (I : Inner) (t : Text) (b : Bytes) (tr : AsciiTransparent I utf8)
    (hn : (detectUnicode t true).2 = false) (h : encode I t none = .ok b)
    (hd : (detectStr b true).1 = some utf8) (f : Bool) :
    decode I b none f = .ok t := by
  rw [decode_none_of_detect I b utf8 t f hd (by decide +kernel) tr.known (tr.roundtrip _ _ (encode_nohead I t b hn h)),
    fix_nohead_final hn utf8]
  rfl

theorem encode_decode_prefix (I : Inner) (p r : Text) (b : Bytes) (tr : AsciiTransparent I utf8)
    (hn : (detectUnicode (p ++ r) true).2 = false) (h : encode I (p ++ r) none = .ok b)
    (hp : ∀ c ∈ p, c < 128) (hc : cands p = []) (f : Bool) :
    decode I b none f = .ok (p ++ r) := by
  obtain ⟨b', hb'⟩ := tr.ascii_prefix p r b hp (encode_nohead I _ b hn h)
  refine encode_decode_nohead I _ b tr hn h ?_ f
  have := cands_sublist p b'
  rw [hc, List.sublist_nil] at this
  rw [hb', detect_cands_nil true this]

theorem detectU_first (c : Nat) (r : Text) (h64 : c ≠ 64) : (detectUnicode (c :: r) true).2 = false := by
  have : charsetPrefix.isPrefixOf (c :: r) = false := by
    simp [charsetPrefix_eq, List.isPrefixOf, Ne.symm h64]
  rw [detectU_nohead _ true this]
  rfl

/-- the identity codec: every name is known, text and bytes are the same numbers, no state -/
def idInner : Inner where
  D := Unit
  E := Unit
  known := fun _ => true
  dinit := fun _ => ()
  dec := fun _ b _ => some (b, ())
  einit := fun _ => ()
  enc := fun _ t _ => some (t, ())

theorem idInner_encLaw : EncLaw idInner where
  split := by
    intro e a b f o1 e1 h
    have : a = o1 := congrArg Prod.fst (Option.some.inj h)
    subst this
    rfl
  fail := by intro e a b f h; cases h

theorem idInner_decLaw : DecLaw idInner where
  split := by
    intro e a b f o1 e1 h
    have : a = o1 := congrArg Prod.fst (Option.some.inj h)
    subst this
    rfl
  fail := by intro e a b f h; cases h

theorem idInner_roundtrip (e t : Text) (b : Bytes) (_ : idInner.known e = true)
    (h : idInner.encodeAll e t = some b) : idInner.decodeAll e b = some t := by
  have : t = b := Option.some.inj h
  subst this
  rfl

/-- a fragment of UTF-8: ASCII and U+FEFF (`EF BB BF`); every other character is an error -/
def toyEnc : Text → Option Bytes
  | [] => some []
  | c :: r =>
    if c < 128 then (toyEnc r).map (c :: ·)
    else if c = 0xFEFF then (toyEnc r).map (fun x => 0xEF :: 0xBB :: 0xBF :: x)
    else none

def toyDec : Bytes → Option Text
  | [] => some []
  | c :: r =>
    if c < 128 then (toyDec r).map (c :: ·)
    else match r with
      | x :: y :: r' => if c = 0xEF ∧ x = 0xBB ∧ y = 0xBF then (toyDec r').map (0xFEFF :: ·) else none
      | _ => none

def stripBom : Bytes → Bytes
  | 0xEF :: 0xBB :: 0xBF :: r => r
  | b => b

/-- `utf-8` and, under its spellings, `utf-8-sig` (BOM written by the encoder, skipped by the
decoder); no other name is known; the state remembers whether the BOM is still due -/
def toyInner : Inner where
  D := Bool
  E := Bool
  known := fun e => normName e == utf8 || isUtf8Sig e
  dinit := fun e => isUtf8Sig e
  dec := fun d b _ => (toyDec (if d then stripBom b else b)).map (fun t => (t, false))
  einit := fun e => isUtf8Sig e
  enc := fun s t _ => (toyEnc t).map (fun b => (if s then 0xEF :: 0xBB :: 0xBF :: b else b, false))

theorem toy_roundtrip : ∀ (t : Text) (b : Bytes), toyEnc t = some b → toyDec b = some t
  | [], b, h => by cases h; rfl
  | c :: r, b, h => by
    unfold toyEnc at h
    split at h
    · rename_i hc
      obtain ⟨b0, hb0, rfl⟩ := Option.map_eq_some_iff.mp h
      unfold toyDec
      simp [hc, toy_roundtrip r b0 hb0]
    · split at h
      · obtain ⟨b0, hb0, rfl⟩ := Option.map_eq_some_iff.mp h
        subst c
        unfold toyDec
        simp [toy_roundtrip r b0 hb0]
      · cases h

theorem toy_prefix : ∀ (p r : Text) (b : Bytes), (∀ c ∈ p, c < 128) → toyEnc (p ++ r) = some b → ∃ b', b = p ++ b'
  | [], _, b, _, _ => ⟨b, rfl⟩
  | c :: p, r, b, hp, h => by
    rw [List.cons_append, toyEnc, if_pos (hp c List.mem_cons_self)] at h
    obtain ⟨b0, hb0, rfl⟩ := Option.map_eq_some_iff.mp h
    obtain ⟨b', rfl⟩ := toy_prefix p r b0 (fun x hx => hp x (List.mem_cons_of_mem _ hx)) hb0
    exact ⟨b', rfl⟩

theorem toy_notsig {e : Text} (h : normName e = utf8) : isUtf8Sig e = false := by
  unfold isUtf8Sig; rw [h]; decide +kernel

theorem toy_encodeAll (e t : Text) : toyInner.encodeAll e t =
    (toyEnc t).map fun b => if isUtf8Sig e then 0xEF :: 0xBB :: 0xBF :: b else b := by
  simp [Inner.encodeAll, toyInner, Function.comp_def]

theorem toy_decodeAll (e : Text) (b : Bytes) :
    toyInner.decodeAll e b = toyDec (if isUtf8Sig e then stripBom b else b) := by
  simp [Inner.decodeAll, toyInner, Function.comp_def]

theorem toyInner_transparent (e : Text) (hn : normName e = utf8) : AsciiTransparent toyInner e where
  known := by simp [toyInner, hn]
  roundtrip := by
    intro t b h
    simp only [toy_encodeAll, toy_decodeAll, toy_notsig hn, Bool.false_eq_true, if_false, Option.map_id'] at h ⊢
    exact toy_roundtrip t b h
  ascii_prefix := by
    intro p r b hp h
    simp only [toy_encodeAll, toy_notsig hn, Bool.false_eq_true, if_false, Option.map_id'] at h
    exact toy_prefix p r b hp h

theorem toyInner_sig (e : Text) (hs : isUtf8Sig e = true) : SigCodec toyInner e where
  known_sig := by decide +kernel
  bom := by
    intro t b h
    rw [toy_encodeAll, hs] at h
    obtain ⟨b0, _, rfl⟩ := Option.map_eq_some_iff.mp h
    exact ⟨b0, rfl⟩
  roundtrip := by
    intro t b h
    rw [toy_encodeAll, hs] at h
    obtain ⟨b0, hb0, rfl⟩ := Option.map_eq_some_iff.mp h
    rw [toy_decodeAll, sig_isSig]
    exact toy_roundtrip t b0 hb0

theorem idInner_transparent (e : Text) : AsciiTransparent idInner e where
  known := rfl
  roundtrip := fun t b h => idInner_roundtrip e t b rfl h
  ascii_prefix := by
    intro p r b _ h
    have : p ++ r = b := Option.some.inj h
    exact ⟨r, this.symm⟩

end CssVerif.Codec
