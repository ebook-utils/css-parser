/-
Composition lemmas for C09: from per-lexeme "first token" statements about `step` to a statement about
the whole `loop` / `tokenize` on a concatenation of lexemes.

Everything here is generic in the lexeme type `α`: a lexeme is rendered by `render`, its expected
token is `exp`, and `P prev a rest` is the side condition under which `step` on `render a ++ rest`
(previous character `prev`) produces exactly that token.  `Spaced` threads `P` through a list; the
instance for the CSS lexemes lives in Props/C09.lean.
-/
import CssVerif.Proofs.ClassifyMore
namespace CssVerif
open Re

section
variable {α : Type} (render : α → Text) (P : Option Nat → α → Text → Prop)

/-- the side condition `P` holds at every lexeme of the list, with the previous character and the
remaining text the tokenizer will see there -/
def Spaced : Option Nat → List α → Prop
  | _, [] => True
  | prev, a :: ls => P prev a (ls.flatMap render) ∧ Spaced (render a).getLast? ls

def itemView (it : Option Tok × Text) : Option (String × Text) × Text :=
  (it.1.map (fun t => (t.typ, t.val)), it.2)

/-- **composition.**  If `step` classifies every lexeme under `P`, the loop started on the
concatenation of a `Spaced` list returns exactly the expected tokens with the lexemes as raw texts,
and ends because the text is used up. -/
theorem loop_spaced (T : Tables) (cfg : Cfg) (exp : α → String × Text)
    (hstep : ∀ (st : St) (a : α) (rest : Text), P st.prev a rest → st.rest = render a ++ rest →
      render a ≠ [] ∧ ∃ r, step T cfg st = some r ∧ r.emit.map (fun t => (t.typ, t.val)) = some (exp a) ∧
        r.raw = render a ∧ r.st.prev = (render a).getLast? ∧ r.st.rest = rest) :
    ∀ (ls : List α) (fuel : Nat) (st : St), st.rest = ls.flatMap render → Spaced render P st.prev ls →
      st.rest.length ≤ fuel →
      (loop T cfg fuel st).1.map itemView = ls.map (fun a => (some (exp a), render a)) ∧
        (loop T cfg fuel st).2.2 = .done := by
  intro ls
  induction ls with
  | nil =>
    intro fuel st hr _ _
    rw [loop_nil T cfg fuel st (by simpa using hr)]
    exact ⟨rfl, rfl⟩
  | cons a ls ih =>
    intro fuel st hr hsp hfuel
    obtain ⟨hP, hsp'⟩ := hsp
    rw [List.flatMap_cons] at hr
    obtain ⟨hne, r, hs, hemit, hraw, hprev, hrest⟩ := hstep st a _ hP hr
    have hlen : 0 < (render a).length := List.length_pos_iff.mpr hne
    have hstne : st.rest ≠ [] := by
      rw [hr]; intro h
      exact hne (List.append_eq_nil_iff.mp h).1
    have hl : st.rest.length = (render a).length + (ls.flatMap render).length := by rw [hr]; simp
    cases fuel with
    | zero => omega
    | succ n =>
      rw [loop_succ_of_step T cfg n st r hstne hs]
      have := ih n r.st hrest (hprev ▸ hsp') (by rw [hrest]; omega)
      refine ⟨?_, this.2⟩
      simp only [List.map_cons, this.1]
      congr 1
      simp [itemView, hemit, hraw]

end

end CssVerif
