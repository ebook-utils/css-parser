/-
Media queries on the combinator engine: `MQ.mediaQuery` (the engine of Model/ProdParser running the grammar of
`MediaQuery._setMediaText`) accepts exactly the language `MQ.accepts`, a six-state recursive recogniser written
from the documented grammar plus the one rule the code adds (see `accepts`).

The engine on this grammar is a finite automaton: the production stacks that occur are those of the control states
`Q`, and one descent moves between them as `Q.step` says (`step_sim`, from the `nextProd` equations of the frames).
`engine_run` follows the token loop along a run of that automaton, for a query parsed from a string and for the query
nested in a media list (Proofs/PPList) alike; `run_lang` reads the language off the run.
-/
import CssVerif.Proofs.PPTotal

namespace CssVerif.PP

/- how the end-of-input walk takes what `nextProd(None)` gives: it goes on to the next frame (`quiet`), it looks at
   `mayEnd` of the last Prod (`isMissing`), it is an error (`isError`) -/
def NP.quiet : NP → Bool
  | .found _ _ | .none_ _ | .done _ => true
  | _ => false
def NP.isMissing : NP → Bool
  | .missing _ => true
  | _ => false
def NP.isError : NP → Bool
  | .noMatch _ | .exhausted _ => true
  | _ => false

theorem endLoop_skip {last : Option PF} {fr : Frame} {rest : List Frame} {wf : Bool} {errs : List Err}
    (h : (fr.next none).quiet = true) :
    endLoop last (fr :: rest) wf errs = endLoop last rest wf errs := by
  cases hn : fr.next none <;> simp [hn, NP.quiet] at h <;> simp [endLoop, hn]

theorem endLoop_missing {f : PF} {fr : Frame} {rest : List Frame} {wf : Bool} {errs : List Err}
    (h : (fr.next none).isMissing = true) (hm : f.mayEnd = false) :
    endLoop (some f) (fr :: rest) wf errs = endLoop (some f) rest false (.endMissing :: errs) := by
  cases hn : fr.next none <;> simp [hn, NP.isMissing] at h
  simp [endLoop, hn, hm]

theorem endLoop_missing_none {fr : Frame} {rest : List Frame} {wf : Bool} {errs : List Err}
    (h : (fr.next none).isMissing = true) : endLoop none (fr :: rest) wf errs = endLoop none rest wf errs := by
  cases hn : fr.next none <;> simp [hn, NP.isMissing] at h
  simp [endLoop, hn]

theorem endLoop_other {last : Option PF} {fr : Frame} {rest : List Frame} {wf : Bool} {errs : List Err}
    (h : (fr.next none).isError = true) :
    endLoop last (fr :: rest) wf errs = endLoop last rest false (.endOther :: errs) := by
  cases hn : fr.next none <;> simp [hn, NP.isError] at h <;> simp [endLoop, hn]

theorem endLoop_false {last : Option PF} {stack : List Frame} {errs : List Err} :
    (endLoop last stack false errs).1 = false := by
  induction stack generalizing errs with
  | nil => simp [endLoop]
  | cons fr rest ih =>
    cases hn : fr.next none <;> simp [endLoop, hn, ih]
    cases last with
    | none => simp [ih]
    | some f => by_cases hm : f.mayEnd = true <;> simp [hm, ih]

theorem finish_wf_of_end_false {cfg : Cfg} {st : LS} {toks : List Tok}
    (h : (if st.stopall then (st.wf, st.errs, Status.ok) else endLoop st.last st.stack st.wf st.errs).1 = false) :
    (finish cfg st toks).wf = false := by
  unfold finish
  generalize (if st.stopall then (st.wf, st.errs, Status.ok) else endLoop st.last st.stack st.wf st.errs) = x at h
  obtain ⟨wf, errs, status⟩ := x
  simp only at h
  subst h
  simp only []
  split
  · rfl
  · split
    · rfl
    · split <;> rfl

theorem finish_false {cfg : Cfg} {st : LS} {toks : List Tok} (h : st.wf = false) : (finish cfg st toks).wf = false := by
  apply finish_wf_of_end_false
  split
  · exact h
  · rw [h]
    exact endLoop_false

/-- the configurations of the media parsers: `tl` a string was given (`MediaQuery(text)`), `g` the tokens come from
    the global tokenizer -/
def cfgG (tl g : Bool) (d : Nat) : Cfg := { toplevel := tl, global := g, dfuel := d }

/-- the loop state between two tokens while nothing has gone wrong -/
structure Ready (st : LS) : Prop where
  saved : st.saved = []
  filt : st.filt = none
  pushed : st.pushed = []
  defaultS : st.defaultS = true
  stopall : st.stopall = false
  wf : st.wf = true

/-- flags of a Prod after which the loop simply goes on, and that does not excuse a `Missing` at the end of input -/
structure Plain (f : PF) : Prop where
  stop : f.stop = false
  sak : f.stopAndKeep = false
  nextSor : f.nextSor = false
  mayEnd : f.mayEnd = false
  toSeq : f.toSeq ≠ .drop

theorem Plain.of_flags {f : PF}
    (h : (f.stop || f.stopAndKeep || f.nextSor || f.mayEnd || f.toSeq == .drop) = false) : Plain f := by
  simp only [Bool.or_eq_false_iff, beq_eq_false_iff_ne] at h
  exact ⟨h.1.1.1.1, h.1.1.1.2, h.1.1.2, h.1.2, h.2⟩

/-- a token that reaches the descent -/
structure Real (t : Tok) : Prop where
  nc : t.kind ≠ .comment
  ns : t.kind ≠ .s
  ni : t.kind ≠ .invalid
  ne : t.kind ≠ .eof

variable {hook : Hook} {tl g : Bool} {d n : Nat} {st : LS} {t : Tok} {ts : List Tok}

theorem loop_cons (h1 : st.saved = []) (h2 : st.filt = none) (h3 : g = true → st.pushed = []) :
    loop hook (cfgG tl g d) (n + 1) st (t :: ts) = tokStep hook (cfgG tl g d) n t st ts := by
  rw [loop_succ]
  cases st
  cases g <;> simp_all [readTok, cfgG]

theorem loop_nil (h1 : st.saved = []) (h2 : st.filt = none) :
    loop hook (cfgG tl g d) (n + 1) st [] = finish (cfgG tl g d) st [] := by
  rw [loop_succ]
  cases st
  cases g <;> simp_all [readTok, cfgG]

theorem tok_comment {cfg : Cfg} (h : t.kind = .comment) :
    tokStep hook cfg n t st ts = loop hook cfg n { st with items := .comment :: st.items } ts := by simp [tokStep, h]

theorem tok_space (hd : st.defaultS = true) (h : t.kind = .s) :
    tokStep hook (cfgG tl g d) n t st ts = loop hook (cfgG tl g d) n st ts := by simp [tokStep, h, hd, cfgG]

theorem tok_invalid {cfg : Cfg} (h : t.kind = .invalid) : (tokStep hook cfg n t st ts).wf = false := by
  simp [tokStep, h]
  exact finish_false rfl

theorem tok_real {cfg : Cfg} (hk : Real t) :
    tokStep hook cfg n t st ts = descStep hook cfg n { st with started := true } t ts := by
  obtain ⟨k1, k2, k3, k4⟩ := hk
  simp [tokStep, k1, k2, k3, k4]

/-- the fuel `parse` gives a descent (`2 * size + 2`) is at least four rounds -/
theorem dfuelOf_ge (g : G) : ∃ d, dfuelOf g = d + 4 :=
  ⟨2 * g.size - 2, by have := g.size_pos; simp only [dfuelOf]; omega⟩

theorem descStep_prod {cfg : Cfg} {f : PF} {stack' : List Frame}
    (hd : descend t cfg.dfuel st.stack st.last = .prod f stack') :
    descStep hook cfg n st t ts = prodCont hook cfg n f t
      (prodStep hook { st with stack := stack', last := some f, simm := f.simm || st.simm } f t ts) := by
  simp only [descStep, hd]

theorem rstripRev_keeps (it : Item) (h : it.isS = false) : ∀ l : List Item, it ∈ l → it ∈ rstripRev l
  | [], hm => by cases hm
  | a :: l, hm => by
    simp only [rstripRev]
    split
    · rename_i ha
      rcases List.mem_cons.1 hm with rfl | hm'
      · rw [h] at ha; cases ha
      · exact rstripRev_keeps it h l hm'
    · exact hm

theorem rstripRev_subset (it : Item) : ∀ l : List Item, it ∈ rstripRev l → it ∈ l
  | [], h => h
  | a :: l, h => by
    simp only [rstripRev] at h
    split at h
    · exact List.mem_cons_of_mem _ (rstripRev_subset it l h)
    · exact h

theorem mem_ite (it : Item) (c : Prop) [Decidable c] {a b : Res} (ha : it ∈ a.items) (hb : it ∈ b.items) :
    it ∈ (if c then a else b).items := by
  split <;> assumption

theorem finish_keeps {cfg : Cfg} {st : LS} {toks : List Tok} {it : Item} (h : it.isS = false) (hm : it ∈ st.items) :
    it ∈ (finish cfg st toks).items := by
  unfold finish
  have hne : st.items.isEmpty = false := by
    cases hi : st.items with
    | nil => rw [hi] at hm; cases hm
    | cons a l => rfl
  have h2 := List.mem_reverse.2 (rstripRev_keeps it h st.items hm)
  generalize (if st.stopall = true then (st.wf, st.errs, Status.ok) else endLoop st.last st.stack st.wf st.errs) = e
  obtain ⟨w, er, stt⟩ := e
  simp only [hne, Bool.and_false, Bool.false_eq_true, if_false]
  exact mem_ite it _ (List.mem_reverse.2 hm) (mem_ite it _ h2 h2)

theorem failRes_keeps {st : LS} {toks : List Tok} {s : Status} {it : Item} (hm : it ∈ st.items) :
    it ∈ (failRes st toks s).items := by simp [failRes, hm]

theorem prodStep_items (hook : Hook) (st : LS) (f : PF) (t : Tok) (toks : List Tok) (it : Item) (hm : it ∈ st.items) :
    it ∈ (prodStep hook st f t toks).1.items := by
  simp only [prodStep]
  split
  · exact hm
  · split
    · exact hm
    · exact List.mem_cons_of_mem _ hm
    · exact List.mem_cons_of_mem _ hm

/-! along the cut `tokStep` / `descStep` / `prodCont`, for a loop `ih` that keeps the item -/
section keeps
variable {hook : Hook} {cfg : Cfg} {n : Nat} {it : Item} (h : it.isS = false)
  (ih : ∀ (st : LS) (toks : List Tok), it ∈ st.items → it ∈ (loop hook cfg n st toks).items)
include h ih

theorem prodCont_keeps (f : PF) (t : Tok) (x : LS × List Tok × Status) (hx : it ∈ x.1.items) :
    it ∈ (prodCont hook cfg n f t x).items := by
  obtain ⟨st, toks, hs⟩ := x
  exact mem_ite it _ (failRes_keeps hx) (mem_ite it _ (finish_keeps h hx)
    (mem_ite it _ (finish_keeps h hx) (mem_ite it _ (ih _ _ hx) (ih _ _ hx))))

theorem descStep_keeps (st : LS) (t : Tok) (toks : List Tok) (hm : it ∈ st.items) :
    it ∈ (descStep hook cfg n st t toks).items := by
  unfold descStep
  cases descend t cfg.dfuel st.stack st.last with
  | noMatch stack => exact mem_ite it _ (finish_keeps h hm) (finish_keeps h hm)
  | parseErr last stack => exact mem_ite it _ (finish_keeps h hm) (finish_keeps h hm)
  | spin | crash | fuel => exact failRes_keeps hm
  | prod f stack => exact prodCont_keeps h ih f t _ (prodStep_items hook _ f t toks it hm)

theorem tokStep_keeps (t : Tok) (st : LS) (toks : List Tok) (hm : it ∈ st.items) :
    it ∈ (tokStep hook cfg n t st toks).items :=
  mem_ite it _ (ih _ _ (List.mem_cons_of_mem _ hm)) (mem_ite it _
    (mem_ite it _ (ih _ _ hm) (ih _ _ (List.mem_cons_of_mem _ hm)))
    (mem_ite it _ (finish_keeps h hm) (mem_ite it _ (ih _ _ hm) (descStep_keeps h ih _ t toks hm))))

end keeps

theorem loop_keeps (hook : Hook) (cfg : Cfg) (it : Item) (h : it.isS = false) :
    ∀ (n : Nat) (st : LS) (toks : List Tok), it ∈ st.items → it ∈ (loop hook cfg n st toks).items := by
  intro n
  induction n with
  | zero => intro st toks hm; exact failRes_keeps hm
  | succ n ih =>
    intro st toks hm
    rw [loop_succ]
    cases hr : readTok cfg st toks with
    | none => exact finish_keeps h hm
    | some x => exact tokStep_keeps h ih _ _ _ (readTok_items hr ▸ hm)

end CssVerif.PP

namespace CssVerif.PP.MQ
open CssVerif.PP

def pAnd : Pred := .kindVal .ident tAnd
def pOnlyNot : Pred := .kindValIn .ident [tOnly, tNot]
def pKnown : Pred := .kindValIn .ident mediaTypes
def pIdent : Pred := .kind .ident
def pLpar : Pred := .val tLpar
def pRpar : Pred := .val tRpar
def pColon : Pred := .val tColon
def pColor (colors : List Text) : Pred := .or .hexcolor (.or (.kindValIn .function colorFns) (.kindValIn .ident colors))
def pDim : Pred := .kindIn [.dimension, .number, .percentage]
def pVal : Pred := .kindIn [.ident, .string, .urange]
def pRatio : Pred := .kind .ratio

def isValue (c : List Text) (t : Tok) : Bool := (pColor c).eval t || (pDim.eval t || (pVal.eval t || pRatio.eval t))

/-! ### the language, written independently of the engine

Tokens are tested with the predicates of the grammar (`pAnd` … `isValue`).  `len` ("lenient") is set when the
query began with `[only|not]? <known media type>`: then a token that does not fit *inside* an `and ( … )` part
ends the query there and the query counts as well-formed — that is the one rule of the code that the documented
grammar does not have (`stopIfNoMoreMatch` on the known media type turns `Missing` into a quiet stop). -/

def bad (t : Tok) : Bool := t.kind == .invalid

mutual
  /-- `[ AND expression ]*` up to the end of the text -/
  def andExprs (c : List Text) (len : Bool) : List Tok → Bool
    | [] => true
    | t :: ts => if bad t then false else if pAnd.eval t then afterAnd c len ts else false
  /-- after AND: `(` -/
  def afterAnd (c : List Text) (len : Bool) : List Tok → Bool
    | [] => false
    | t :: ts => if bad t then false else if pLpar.eval t then afterLpar c len ts else len
  /-- after `(`: the media feature -/
  def afterLpar (c : List Text) (len : Bool) : List Tok → Bool
    | [] => false
    | t :: ts => if bad t then false else if pIdent.eval t then afterFeature c len ts else len
  /-- after the feature: `:` value `)` or `)` -/
  def afterFeature (c : List Text) (len : Bool) : List Tok → Bool
    | [] => false
    | t :: ts =>
      if bad t then false else if pColon.eval t then afterColon c len ts else if pRpar.eval t then andExprs c len ts else len
  def afterColon (c : List Text) (len : Bool) : List Tok → Bool
    | [] => false
    | t :: ts => if bad t then false else if isValue c t then afterValue c len ts else len
  def afterValue (c : List Text) (len : Bool) : List Tok → Bool
    | [] => false
    | t :: ts => if bad t then false else if pRpar.eval t then andExprs c len ts else len
end

/-- after ONLY / NOT: a known media type -/
def afterOnlyNot (c : List Text) : List Tok → Bool
  | [] => false
  | t :: ts => if bad t then false else if pKnown.eval t then andExprs c true ts else false

/-- `media_query` as the code accepts it, over the tokens without S and COMMENT:
    `[ONLY|NOT]? known-type [AND expr]*  |  expr [AND expr]*  |  IDENT [AND expr]*` -/
def accepts (c : List Text) : List Tok → Bool
  | [] => false
  | t :: ts =>
    if bad t then false
    else if pOnlyNot.eval t then afterOnlyNot c ts
    else if pKnown.eval t then andExprs c true ts
    else if pLpar.eval t then afterLpar c false ts
    else if pIdent.eval t then andExprs c false ts
    else false

/-- S and COMMENT tokens never reach the grammar -/
def strip (toks : List Tok) : List Tok := toks.filter (fun t => t.kind != .s && t.kind != .comment)

/-! ### the documented grammar -/

mutual
  /-- `[ AND S* expression ]*` of the docstring -/
  def docAndExprs (c : List Text) : List Tok → Bool
    | [] => true
    | t :: ts => !bad t && pAnd.eval t && docAfterAnd c ts
  def docAfterAnd (c : List Text) : List Tok → Bool
    | [] => false
    | t :: ts => !bad t && pLpar.eval t && docAfterLpar c ts
  def docAfterLpar (c : List Text) : List Tok → Bool
    | [] => false
    | t :: ts => !bad t && pIdent.eval t && docAfterFeature c ts
  def docAfterFeature (c : List Text) : List Tok → Bool
    | [] => false
    | t :: ts => !bad t && ((pColon.eval t && docAfterColon c ts) || (!pColon.eval t && pRpar.eval t && docAndExprs c ts))
  def docAfterColon (c : List Text) : List Tok → Bool
    | [] => false
    | t :: ts => !bad t && isValue c t && docAfterValue c ts
  def docAfterValue (c : List Text) : List Tok → Bool
    | [] => false
    | t :: ts => !bad t && pRpar.eval t && docAndExprs c ts
end

/-- the docstring of `MediaQuery`: `[ONLY|NOT]? IDENT [AND expression]* | expression [AND expression]*`
    (`media_type : IDENT` — any identifier) -/
def documented (c : List Text) : List Tok → Bool
  | [] => false
  | t :: ts =>
    if bad t then false
    else if pLpar.eval t then docAfterLpar c ts
    else if pOnlyNot.eval t then
      match ts with
      | u :: us => (!bad u && pIdent.eval u && docAndExprs c us) || docAndExprs c ts     -- `only` may itself be the type
      | [] => true
    else if pIdent.eval t then docAndExprs c ts
    else false

def knownHead : List Tok → Bool
  | t :: u :: _ => pKnown.eval t || (pOnlyNot.eval t && pKnown.eval u)
  | [t] => pKnown.eval t
  | [] => false

/-! ### the grammar as named pieces (definitionally the terms of Model/MediaQuery) -/

def fOpen : PF := { name := nOpen }
def fFeature : PF := { name := nFeature }
def fColon : PF := { name := nColon }
def fClose (partof : Bool) : PF := { name := nClose, simm := partof }
def fAnd : PF := { name := nAnd }
def fOnlyNot : PF := { name := nOnlyNot, optional := true }
def fType (known : Bool) : PF := { name := nType, simm := known }

def valueItems (colors : List Text) : GL :=
  .cons (.prod { name := nColor, toSeq := .nested nColor } (pColor colors))
  (.cons (.prod { name := nDim, toSeq := .nested nDim } pDim)
  (.cons (.prod { name := nValue, toSeq := .nested nValue } pVal)
  (.cons (.prod { name := nRatio } pRatio) .nil)))

def colonItems (colors : List Text) : GL :=
  .cons (.prod fColon pColon) (.cons (.choice (valueItems colors) none) .nil)

def exprItems (partof : Bool) (colors : List Text) : GL :=
  .cons (.prod fOpen pLpar)
  (.cons (.prod fFeature pIdent)
  (.cons (.seq (colonItems colors) 0 (some 1))
  (.cons (.prod (fClose partof) pRpar) .nil)))

def andItems (partof : Bool) (colors : List Text) : GL :=
  .cons (.prod fAnd pAnd) (.cons (.seq (exprItems partof colors) 1 (some 1)) .nil)

def typeItems (known : Bool) (partof : Bool) (colors : List Text) : GL :=
  .cons (.prod fOnlyNot pOnlyNot)
  (.cons (.prod (fType known) (if known then pKnown else pIdent))
  (.cons (.seq (andItems partof colors) 0 none) .nil))

def exprFirstItems (partof : Bool) (colors : List Text) : GL :=
  .cons (.seq (exprItems partof colors) 1 (some 1)) (.cons (.seq (andItems partof colors) 0 none) .nil)

def rootItems (partof : Bool) (colors : List Text) : GL :=
  .cons (.seq (typeItems true partof colors) 1 (some 1))
  (.cons (.seq (exprFirstItems partof colors) 1 (some 1))
  (.cons (.seq (typeItems false partof colors) 1 (some 1)) .nil))

theorem grammar_eq (partof : Bool) (colors : List Text) : grammar partof colors = .choice (rootItems partof colors) none := rfl

abbrev fV (c : List Text) (ex : Bool) : Frame := .choice (valueItems c) none ex
abbrev fC (c : List Text) (i r : Nat) (s : Bool) : Frame := .seq (colonItems c) 0 (some 1) i r s
abbrev fE (p : Bool) (c : List Text) (i r : Nat) (s : Bool) : Frame := .seq (exprItems p c) 1 (some 1) i r s
abbrev fA (p : Bool) (c : List Text) (i r : Nat) (s : Bool) : Frame := .seq (andItems p c) 0 none i r s
abbrev fT (k p : Bool) (c : List Text) (i r : Nat) (s : Bool) : Frame := .seq (typeItems k p c) 1 (some 1) i r s
abbrev fX (p : Bool) (c : List Text) (i r : Nat) (s : Bool) : Frame := .seq (exprFirstItems p c) 1 (some 1) i r s
abbrev fR (p : Bool) (c : List Text) (ex : Bool) : Frame := .choice (rootItems p c) none ex

/-! ### `nextProd` of every frame of the grammar, for a token and for `None` -/

variable (p : Bool) (c : List Text) (t : Tok)

section next
attribute [local simp] Frame.next seqNext choiceNext ltMax GL.length GL.get? GL.firstMatch GL.anyOptional G.matchesO
  G.matches GL.seqMatches GL.choiceMatches G.optional exprItems colonItems valueItems andItems typeItems exprFirstItems
  rootItems fOpen fFeature fColon fClose fAnd fOnlyNot fType isValue fV fC fE fA fT fX fR NP.quiet NP.isMissing NP.isError

theorem nE0 : (fE p c 0 0 false).next (some t) =
    if pLpar.eval t then .found (.prod fOpen pLpar) (fE p c 1 0 true) else .missing (fE p c 1 0 false) := by simp
theorem nE1 (s : Bool) : (fE p c 1 0 s).next (some t) =
    if pIdent.eval t then .found (.prod fFeature pIdent) (fE p c 2 0 true) else .missing (fE p c 2 0 s) := by simp
theorem nE2 (s : Bool) : (fE p c 2 0 s).next (some t) =
    if pColon.eval t then .found (.seq (colonItems c) 0 (some 1)) (fE p c 3 0 true)
    else if pRpar.eval t then .found (.prod (fClose p) pRpar) (fE p c 0 1 true) else .missing (fE p c 0 1 s) := by simp
theorem nE3 (s : Bool) : (fE p c 3 0 s).next (some t) =
    if pRpar.eval t then .found (.prod (fClose p) pRpar) (fE p c 0 1 true) else .missing (fE p c 0 1 s) := by simp
theorem nEend (s : Bool) (o : Option Tok) : (fE p c 0 1 s).next o =
    if o.isSome then .exhausted (fE p c 0 1 s) else .none_ (fE p c 0 1 s) := by simp

theorem nC0 : (fC c 0 0 false).next (some t) =
    if pColon.eval t then .found (.prod fColon pColon) (fC c 1 0 true) else .noMatch (fC c 1 0 false) := by simp
theorem nC1 : (fC c 1 0 true).next (some t) =
    if isValue c t then .found (.choice (valueItems c) none) (fC c 0 1 true) else .missing (fC c 0 1 true) := by simp
theorem nCend (s : Bool) (o : Option Tok) : (fC c 0 1 s).next o =
    if o.isSome then .exhausted (fC c 0 1 s) else .none_ (fC c 0 1 s) := by simp

theorem nVend (o : Option Tok) : (fV c true).next o = if o.isSome then .exhausted (fV c true) else .none_ (fV c true) := by simp

theorem nA0 (r : Nat) (s : Bool) : (fA p c 0 r s).next (some t) =
    if pAnd.eval t then .found (.prod fAnd pAnd) (fA p c 1 r true) else .noMatch (fA p c 1 r false) := by simp
theorem nA1 (r : Nat) : (fA p c 1 r true).next (some t) =
    if pLpar.eval t then .found (.seq (exprItems p c) 1 (some 1)) (fA p c 0 (r + 1) true) else .missing (fA p c 0 (r + 1) true) := by
  simp

theorem nT0 (k : Bool) : (fT k p c 0 0 false).next (some t) =
    if pOnlyNot.eval t then .found (.prod fOnlyNot pOnlyNot) (fT k p c 1 0 true)
    else if (if k then pKnown else pIdent).eval t then .found (.prod (fType k) (if k then pKnown else pIdent)) (fT k p c 2 0 true)
    else .missing (fT k p c 2 0 false) := by simp
theorem nT1 (k s : Bool) : (fT k p c 1 0 s).next (some t) =
    if (if k then pKnown else pIdent).eval t then .found (.prod (fType k) (if k then pKnown else pIdent)) (fT k p c 2 0 true)
    else .missing (fT k p c 2 0 s) := by simp
theorem nT2 (k s : Bool) : (fT k p c 2 0 s).next (some t) =
    if pAnd.eval t then .found (.seq (andItems p c) 0 none) (fT k p c 0 1 true) else .exhausted (fT k p c 0 1 s) := by simp
theorem nTend (k s : Bool) (o : Option Tok) : (fT k p c 0 1 s).next o =
    if o.isSome then .exhausted (fT k p c 0 1 s) else .none_ (fT k p c 0 1 s) := by simp

theorem nX0 : (fX p c 0 0 false).next (some t) =
    if pLpar.eval t then .found (.seq (exprItems p c) 1 (some 1)) (fX p c 1 0 true) else .missing (fX p c 1 0 false) := by simp
theorem nX1 (s : Bool) : (fX p c 1 0 s).next (some t) =
    if pAnd.eval t then .found (.seq (andItems p c) 0 none) (fX p c 0 1 true) else .exhausted (fX p c 0 1 s) := by simp
theorem nXend (s : Bool) (o : Option Tok) : (fX p c 0 1 s).next o =
    if o.isSome then .exhausted (fX p c 0 1 s) else .none_ (fX p c 0 1 s) := by simp

theorem nR0 : (fR p c false).next (some t) =
    if pOnlyNot.eval t || pKnown.eval t then .found (.seq (typeItems true p c) 1 (some 1)) (fR p c true)
    else if pLpar.eval t then .found (.seq (exprFirstItems p c) 1 (some 1)) (fR p c true)
    else if pOnlyNot.eval t || pIdent.eval t then .found (.seq (typeItems false p c) 1 (some 1)) (fR p c true)
    else .noMatch (fR p c false) := by
  by_cases h1 : (pOnlyNot.eval t || pKnown.eval t) = true
  · simp [h1]
  by_cases h2 : pLpar.eval t = true
  · simp [h1, h2]
  by_cases h3 : (pOnlyNot.eval t || pIdent.eval t) = true <;> simp [h1, h2, h3]
theorem nRend (o : Option Tok) : (fR p c true).next o = if o.isSome then .exhausted (fR p c true) else .none_ (fR p c true) := by
  simp

/-- the Prod of `MediaQueryValueProd` that takes `t` -/
def vF (c : List Text) (t : Tok) : PF :=
  if (pColor c).eval t then { name := nColor, toSeq := .nested nColor }
  else if pDim.eval t then { name := nDim, toSeq := .nested nDim }
  else if pVal.eval t then { name := nValue, toSeq := .nested nValue }
  else { name := nRatio }

def vM (c : List Text) (t : Tok) : Pred :=
  if (pColor c).eval t then pColor c else if pDim.eval t then pDim else if pVal.eval t then pVal else pRatio

theorem nV0 (h : isValue c t = true) : (fV c false).next (some t) = .found (.prod (vF c t) (vM c t)) (fV c true) := by
  by_cases h1 : (pColor c).eval t = true
  · simp [vF, vM, h1]
  by_cases h2 : pDim.eval t = true
  · simp [vF, vM, h1, h2]
  by_cases h3 : pVal.eval t = true
  · simp [vF, vM, h1, h2, h3]
  · simp [isValue, h1, h2, h3] at h
    simp [vF, vM, h1, h2, h3, h]

variable {p c}
theorem eE1 {s : Bool} : ((fE p c 1 0 s).next none).isMissing = true := by simp
theorem eE2 {s : Bool} : ((fE p c 2 0 s).next none).isMissing = true := by simp
theorem eE3 {s : Bool} : ((fE p c 3 0 s).next none).isMissing = true := by simp
theorem eEend {s : Bool} : ((fE p c 0 1 s).next none).quiet = true := by simp
theorem eC1 : ((fC c 1 0 true).next none).isMissing = true := by simp
theorem eCend {s : Bool} : ((fC c 0 1 s).next none).quiet = true := by simp
theorem eVend : ((fV c true).next none).quiet = true := by simp
theorem eA0 {r : Nat} {s : Bool} : ((fA p c 0 r s).next none).quiet = true := by simp
theorem eA1 {r : Nat} : ((fA p c 1 r true).next none).isMissing = true := by simp
theorem eT1 {k s : Bool} : ((fT k p c 1 0 s).next none).isMissing = true := by simp
theorem eT2 {k s : Bool} : ((fT k p c 2 0 s).next none).quiet = true := by simp
theorem eTend {k s : Bool} : ((fT k p c 0 1 s).next none).quiet = true := by simp
theorem eX1 {s : Bool} : ((fX p c 1 0 s).next none).quiet = true := by simp
theorem eXend {s : Bool} : ((fX p c 0 1 s).next none).quiet = true := by simp
theorem eR0 : ((fR p c false).next none).isError = true := by simp
theorem eRend : ((fR p c true).next none).quiet = true := by simp

end next

/-! ### control states of the engine on this grammar -/

/-- the frames below an `(and expr)*` loop: the alternative it belongs to, exhausted, and the root -/
inductive Base
  | ty (k : Bool)     -- `[only|not]? type …`, `k`: the alternative with the known media types
  | ex                -- `expr …`

def Base.stack (p : Bool) (c : List Text) : Base → List Frame
  | .ty k => [fT k p c 0 1 true, fR p c true]
  | .ex => [fX p c 0 1 true, fR p c true]

def Base.lenient : Base → Bool
  | .ty k => k
  | .ex => false

inductive Ctx
  | inAnd (b : Base) (r : Nat)      -- inside the `(r+1)`-th `and ( … )` of base `b`
  | first                            -- the expression that opens an `expr …` query

def Ctx.below (p : Bool) (c : List Text) : Ctx → List Frame
  | .inAnd b r => fA p c 0 (r + 1) true :: b.stack p c
  | .first => [fX p c 1 0 true, fR p c true]

def Ctx.lenient : Ctx → Bool
  | .inAnd b _ => b.lenient
  | .first => false

inductive EPos | lpar | feature | colon | value | rpar

def EPos.frames (p : Bool) (c : List Text) : EPos → List Frame
  | .lpar => [fE p c 1 0 true]
  | .feature => [fE p c 2 0 true]
  | .colon => [fC c 1 0 true, fE p c 3 0 true]
  | .value => [fV c true, fC c 0 1 true, fE p c 3 0 true]
  | .rpar => [fE p c 0 1 true]

inductive Q
  | start
  | afterON
  | afterType (k : Bool)
  | afterAnd (b : Base) (r : Nat)
  | inExpr (x : Ctx) (e : EPos)

def Q.stack (p : Bool) (c : List Text) : Q → List Frame
  | .start => [fR p c false]
  | .afterON => [fT true p c 1 0 true, fR p c true]
  | .afterType k => [fT k p c 2 0 true, fR p c true]
  | .afterAnd b r => fA p c 1 r true :: b.stack p c
  | .inExpr x e => e.frames p c ++ x.below p c

/-- `stopIfNoMoreMatch` in that state (top-level query: only the known media type sets it) -/
def Q.lenient : Q → Bool
  | .start => false
  | .afterON => false
  | .afterType k => k
  | .afterAnd b _ => b.lenient
  | .inExpr x _ => x.lenient

/-- what the rest of the text has to look like in that state -/
def Q.lang (c : List Text) : Q → List Tok → Bool
  | .start => accepts c
  | .afterON => afterOnlyNot c
  | .afterType k => andExprs c k
  | .afterAnd b _ => MQ.afterAnd c b.lenient
  | .inExpr x .lpar => afterLpar c x.lenient
  | .inExpr x .feature => afterFeature c x.lenient
  | .inExpr x .colon => afterColon c x.lenient
  | .inExpr x .value => afterValue c x.lenient
  | .inExpr x .rpar => andExprs c x.lenient

inductive Step
  | go (f : PF) (q : Q)     -- the Prod `f` takes the token
  | rej                     -- NoMatch at the bottom of the stack
  | err                     -- Missing

def Q.step (p : Bool) (c : List Text) (t : Tok) : Q → Step
  | .start =>
    if pOnlyNot.eval t then .go fOnlyNot .afterON else if pKnown.eval t then .go (fType true) (.afterType true)
    else if pLpar.eval t then .go fOpen (.inExpr .first .lpar) else if pIdent.eval t then .go (fType false) (.afterType false)
    else .rej
  | .afterON => if pKnown.eval t then .go (fType true) (.afterType true) else .err
  | .afterType k => if pAnd.eval t then .go fAnd (.afterAnd (.ty k) 0) else .rej
  | .afterAnd b r => if pLpar.eval t then .go fOpen (.inExpr (.inAnd b r) .lpar) else .err
  | .inExpr x .lpar => if pIdent.eval t then .go fFeature (.inExpr x .feature) else .err
  | .inExpr x .feature =>
    if pColon.eval t then .go fColon (.inExpr x .colon) else if pRpar.eval t then .go (fClose p) (.inExpr x .rpar) else .err
  | .inExpr x .colon => if isValue c t then .go (vF c t) (.inExpr x .value) else .err
  | .inExpr x .value => if pRpar.eval t then .go (fClose p) (.inExpr x .rpar) else .err
  | .inExpr (.inAnd b r) .rpar => if pAnd.eval t then .go fAnd (.afterAnd b (r + 1)) else .rej
  | .inExpr .first .rpar => if pAnd.eval t then .go fAnd (.afterAnd .ex 0) else .rej

theorem plain_mk (n : Nat) (o s : Bool) : Plain { name := n, optional := o, simm := s } := .of_flags rfl

theorem vF_plain : Plain (vF c t) := by
  unfold vF
  split
  · exact .of_flags rfl
  · split
    · exact .of_flags rfl
    · split <;> exact .of_flags rfl

theorem vF_simm : (vF c t).simm = false := by
  unfold vF
  split
  · rfl
  · split
    · rfl
    · split <;> rfl

def Step.Sim (p : Bool) (c : List Text) : Step → DR → Prop
  | .go f q', r => r = .prod f (q'.stack p c) ∧ Plain f
  | .rej, r => ∃ s, r = .noMatch s
  | .err, r => ∃ l s, r = .parseErr l s

section descent
attribute [local simp] descend fresh nE0 nE1 nE2 nE3 nEend nC0 nC1 nCend nVend nA0 nA1 nT0 nT1 nT2 nTend nX0 nX1 nXend nR0
  nRend Q.step Q.stack Base.stack Ctx.below EPos.frames Step.Sim plain_mk fOnlyNot fType fAnd fOpen fFeature fColon
  fClose vF_plain

/-- **The engine on the query grammar is the automaton `Q.step`**: in control state `q` one descent takes the token
    with the Prod, or fails in the way, that `q.step` says, and leaves the stack of the next state.  Four rounds of
    the descent are enough (`)` not followed by `and`: expression, `and` loop, alternative, root). -/
theorem step_sim (q : Q) (n : Nat) (last : Option PF) :
    (q.step p c t).Sim p c (descend t (n + 4) (q.stack p c) last) := by
  cases q with
  | start =>
    by_cases h1 : pOnlyNot.eval t = true
    · simp [h1]
    by_cases h2 : pKnown.eval t = true
    · simp [h1, h2]
    by_cases h3 : pLpar.eval t = true
    · simp [h1, h2, h3]
    by_cases h4 : pIdent.eval t = true <;> simp [h1, h2, h3, h4]
  | afterON => by_cases h : pKnown.eval t = true <;> simp [h]
  | afterType k => by_cases h : pAnd.eval t = true <;> simp [h]
  | afterAnd b r => by_cases h : pLpar.eval t = true <;> simp [h]
  | inExpr x e =>
    cases e with
    | lpar => by_cases h : pIdent.eval t = true <;> simp [h]
    | feature =>
      by_cases h : pColon.eval t = true
      · simp [h]
      · by_cases h2 : pRpar.eval t = true <;> simp [h, h2]
    | colon =>
      by_cases h : isValue c t = true
      · simp [h, nV0 c t h]
      · simp [h]
    | value => by_cases h : pRpar.eval t = true <;> simp [h]
    | rpar =>
      by_cases h : pAnd.eval t = true
      · cases x <;> simp [h]
      · rcases x with ⟨_ | _, _⟩ | _ <;> simp [h]

end descent

theorem end_start (last : Option PF) (errs : List Err) : (endLoop last [fR p c false] true errs).1 = false := by
  rw [endLoop_other eR0]
  exact endLoop_false

theorem end_Q (q : Q) (f : PF) (hm : f.mayEnd = false) (errs : List Err) :
    (endLoop (some f) (q.stack p c) true errs).1 = q.lang c [] := by
  rcases q with _ | _ | k | ⟨b, r⟩ | ⟨x, _ | _ | _ | _ | _⟩ <;>
    simp only [Q.stack, Q.lang, EPos.frames, List.cons_append, List.nil_append, afterOnlyNot, andExprs, afterAnd, afterLpar,
      afterFeature, afterColon, afterValue]
  · exact end_start p c _ _
  · rw [endLoop_missing eT1 hm]; exact endLoop_false
  · rw [endLoop_skip eT2, endLoop_skip eRend]; rfl
  · rw [endLoop_missing eA1 hm]; exact endLoop_false
  · rw [endLoop_missing eE1 hm]; exact endLoop_false
  · rw [endLoop_missing eE2 hm]; exact endLoop_false
  · rw [endLoop_missing eC1 hm]; exact endLoop_false
  · rw [endLoop_skip eVend, endLoop_skip eCend,
      endLoop_missing eE3 hm]; exact endLoop_false
  · -- after `)`: every frame below is done or may end
    rw [endLoop_skip eEend]
    rcases x with ⟨k | _, r⟩ | _ <;> simp only [Ctx.below, Base.stack]
    · rw [endLoop_skip eA0, endLoop_skip eTend,
        endLoop_skip eRend]; rfl
    · rw [endLoop_skip eA0, endLoop_skip eXend,
        endLoop_skip eRend]; rfl
    · rw [endLoop_skip eX1, endLoop_skip eRend]; rfl

/-! ### a run of the query grammar

`MediaQuery(text)` and the callable `MediaQuery(pushtoken(t, tokens), _partof=True)` of a media list are the same
engine on the same grammar; they differ in `partof` (`stopIfNoMoreMatch` on the closing parenthesis), in `toplevel`
(a token left in `savedTokens` is an error) and in what is looked at afterwards (the verdict; what is left where). -/

def skip (t : Tok) : Bool := t.kind == .s || t.kind == .comment

inductive Out
  | done (wf : Bool)                   -- the tokens are used up
  | back (x : Tok) (rest : List Tok)   -- quiet stop before `x`: handed back through `savedTokens`
  | lost (x : Tok) (rest : List Tok)   -- quiet stop at `x`: pushed to the global tokenizer
  | fail                               -- syntax error

/-- the automaton `Q.step` run over the tokens the way the token loop runs the grammar: S and COMMENT are passed over,
    INVALID is an error, a token no Prod takes ends the run — quietly once `stopIfNoMoreMatch` (`sim`) is set -/
def run (p : Bool) (c : List Text) : List Tok → Q → Bool → Out
  | [], q, _ => .done (q.lang c [])
  | t :: ts, q, sim =>
    if skip t then run p c ts q sim else if bad t then .fail
    else match q.step p c t with
      | .go f q' => run p c ts q' (f.simm || sim)
      | .rej => if sim then .back t ts else .fail
      | .err => if sim then .lost t ts else .fail

def OutOK (tl : Bool) (o : Out) (r : Res) : Prop :=
  match o with
  | .done w => r.wf = w ∧ r.rest = [] ∧ r.saved = [] ∧ r.pushed = []
  | .back x rest => r.wf = !tl ∧ r.rest = rest ∧ (tl = false → r.saved = [x]) ∧ r.pushed = []
  | .lost x rest => r.wf = true ∧ r.rest = rest ∧ r.saved = [] ∧ r.pushed = [x]
  | .fail => r.wf = false

section run
variable {hook : Hook} {tl g : Bool} {d n : Nat} {st : LS} {ts : List Tok}

theorem finish_done (hr : Ready st) (hi : st.items ≠ [] ∨ (endLoop st.last st.stack true st.errs).1 = false) :
    OutOK tl (.done (endLoop st.last st.stack true st.errs).1) (finish (cfgG tl g d) st []) := by
  obtain ⟨h1, h2, h3, h4, h5, h6⟩ := hr
  simp only [finish, cfgG, OutOK, h1, h3, h5, h6]
  generalize endLoop st.last st.stack true st.errs = e at hi
  obtain ⟨w, er, stt⟩ := e
  by_cases hs : stt = .ok
  · rcases hi with hi | hi
    · cases hit : st.items with
      | nil => exact absurd hit hi
      | cons it its => simp [hs]
    · simp only at hi
      subst hi
      cases hit : st.items <;> simp [hs]
  · simp [hs]

theorem tokStep_stop (hr : Ready st) (hk : Real t) {r : DR} (hd : descend t d st.stack st.last = r) {o : Out}
    (ho : (∃ s, r = .noMatch s) ∧ o = .back t ts ∨ (∃ l s, r = .parseErr l s) ∧ o = .lost t ts) :
    OutOK tl (if st.simm then o else .fail) (tokStep hook (cfgG tl g d) n t st ts) := by
  have hd' : descend t (cfgG tl g d).dfuel ({ st with started := true } : LS).stack ({ st with started := true } : LS).last =
      r := hd
  rw [tok_real hk]
  rcases ho with ⟨⟨s, rfl⟩, rfl⟩ | ⟨⟨l, s, rfl⟩, rfl⟩
  all_goals
    simp only [descStep, hd']
    cases hs : st.simm with
    | false => exact finish_false rfl
    | true =>
      cases tl <;> simp [finish, OutOK, cfgG, hr.saved, hr.pushed, hr.wf]

theorem prodStep_value (st : LS) (ts : List Tok) (f : PF) (hp : Plain f) (h : st.pushed = []) :
    ∃ it, prodStep valueHook st f t ts = ({ st with items := it :: st.items }, ts, .ok) := by
  unfold prodStep
  rw [if_neg (by simp [hp.sak])]
  cases hts : f.toSeq with
  | drop => exact absurd hts hp.toSeq
  | keep => exact ⟨_, rfl⟩
  | nested k =>
    refine ⟨.nested k true [.tok k t], ?_⟩
    cases st
    simp_all [valueHook]

theorem tokStep_prod (hr : Ready st) (hk : Real t) (f : PF) (stack' : List Frame)
    (hd : descend t d st.stack st.last = .prod f stack') (hp : Plain f) :
    ∃ st', tokStep valueHook (cfgG tl g d) n t st ts = loop valueHook (cfgG tl g d) n st' ts ∧ Ready st' ∧
      st'.stack = stack' ∧ st'.last = some f ∧ st'.simm = (f.simm || st.simm) ∧ st'.items ≠ [] := by
  obtain ⟨it, hps⟩ := prodStep_value t
    ({ st with started := true, stack := stack', last := some f, simm := f.simm || st.simm } : LS) ts f hp hr.pushed
  refine ⟨{ st with started := true, defaultS := true, stack := stack', last := some f, simm := f.simm || st.simm,
                    items := it :: st.items },
    ?_, ⟨hr.saved, hr.filt, hr.pushed, rfl, hr.stopall, hr.wf⟩, rfl, rfl, rfl, by simp⟩
  rw [tok_real hk, descStep_prod (st := { st with started := true }) (cfg := cfgG tl g d) hd, hps]
  simp [prodCont, hp.stop, hp.sak, hp.nextSor]

/-- what the loop state is known to be in a control state: nothing before the first token; afterwards `lastprod` is a
    Prod without `mayEnd` and the sequence has an item, so that the 'No content' check leaves the verdict alone -/
def Q.Known (st : LS) (q : Q) : Prop := q = .start ∨ ∃ f, st.last = some f ∧ f.mayEnd = false ∧ st.items ≠ []

variable (tl g d)

/-- **The engine on the query grammar, from any control state, for any rest of the text**: the parse ends the way
    the run of the automaton ends. -/
theorem engine_run : ∀ (toks : List Tok) (q : Q) (n : Nat) (st : LS), toks.length + 1 ≤ n → Ready st →
    st.stack = q.stack p c → q.Known st →
    (∀ t ∈ toks, t.kind ≠ .eof) →
    OutOK tl (run p c toks q st.simm) (loop valueHook (cfgG tl g (d + 4)) n st toks) := by
  intro toks
  induction toks with
  | nil =>
    intro q n st hn hr hst hl _
    obtain ⟨m, rfl⟩ : ∃ m, n = m + 1 := ⟨n - 1, by simp at hn; omega⟩
    rw [loop_nil hr.saved hr.filt]
    simp only [run]
    rcases hl with rfl | ⟨f, hf, hm, hi⟩
    · have h0 : (endLoop st.last st.stack true st.errs).1 = false := by
        rw [hst]
        exact end_start p c _ _
      rw [show Q.start.lang c [] = false from rfl, ← h0]
      exact finish_done hr (Or.inr h0)
    · rw [← end_Q p c q f hm st.errs, ← hst, ← hf]
      exact finish_done hr (Or.inl hi)
  | cons t ts ih =>
    intro q n st hn hr hst hl he
    obtain ⟨m, rfl⟩ : ∃ m, n = m + 1 := ⟨n - 1, by simp at hn; omega⟩
    have hm : ts.length + 1 ≤ m := by simp at hn; omega
    have he' : ∀ t ∈ ts, t.kind ≠ .eof := fun u hu => he u (List.mem_cons_of_mem _ hu)
    rw [loop_cons hr.saved hr.filt (fun _ => hr.pushed)]
    by_cases hc : t.kind = .comment
    · rw [tok_comment hc]
      simp only [run, skip, hc, beq_self_eq_true, Bool.or_true, if_true]
      exact ih q m { st with items := .comment :: st.items } hm ⟨hr.saved, hr.filt, hr.pushed, hr.defaultS, hr.stopall, hr.wf⟩ hst
        (hl.imp_right fun ⟨f, h1, h2, _⟩ => ⟨f, h1, h2, List.cons_ne_nil _ _⟩) he'
    by_cases hs : t.kind = .s
    · rw [tok_space hr.defaultS hs]
      simp only [run, skip, hs, beq_self_eq_true, Bool.true_or, if_true]
      exact ih q m st hm hr hst hl he'
    have hsk : skip t = false := by simp [skip, hs, hc]
    by_cases hv : t.kind = .invalid
    · simp only [run, hsk, bad, hv, beq_self_eq_true, Bool.false_eq_true, if_false, if_true]
      exact tok_invalid hv
    have hb : bad t = false := by simp [bad, hv]
    have hreal : Real t := ⟨hc, hs, hv, he t (List.mem_cons_self ..)⟩
    have hd := step_sim p c t q d st.last
    rw [← hst] at hd
    simp only [run, hsk, hb, Bool.false_eq_true, if_false]
    cases hq : q.step p c t with
    | go f q' =>
      rw [hq] at hd
      obtain ⟨st', hloop, hr', hst', hl', hsm', hi'⟩ := tokStep_prod t hr hreal f _ hd.1 hd.2
      rw [hloop]
      simp only []
      exact hsm' ▸ ih q' m st' hm hr' hst' (Or.inr ⟨f, hl', hd.2.mayEnd, hi'⟩) he'
    | rej =>
      rw [hq] at hd
      obtain ⟨s', hd⟩ := hd
      exact tokStep_stop t hr hreal hd (Or.inl ⟨⟨s', rfl⟩, rfl⟩)
    | err =>
      rw [hq] at hd
      obtain ⟨l, s', hd⟩ := hd
      exact tokStep_stop t hr hreal hd (Or.inr ⟨⟨l, s', rfl⟩, rfl⟩)

theorem parse_query (toks : List Tok) (he : ∀ t ∈ toks, t.kind ≠ .eof) :
    OutOK tl (run p c toks .start false) (parse valueHook { toplevel := tl, global := g } (grammar p c) toks []) := by
  obtain ⟨d, hd⟩ := dfuelOf_ge (grammar p c)
  have h : parse valueHook { toplevel := tl, global := g } (grammar p c) toks [] =
      loop valueHook (cfgG tl g (dfuelOf (grammar p c))) (toks.length + 1) { stack := [fR p c false] } toks := by
    rw [grammar_eq]
    rfl
  rw [h, hd]
  exact engine_run p c tl g d toks .start _ { stack := [fR p c false] } (Nat.le_refl _) ⟨rfl, rfl, rfl, rfl, rfl, rfl⟩ rfl
    (Or.inl rfl) he

end run

section
attribute [local simp] Q.lang Q.step Q.lenient Ctx.lenient Base.lenient accepts afterOnlyNot andExprs afterAnd afterLpar afterFeature
  afterColon afterValue fOnlyNot fType fAnd fOpen fFeature fColon fClose vF_simm

theorem lang_bad (q : Q) (ts : List Tok) (hb : bad t = true) : q.lang c (t :: ts) = false := by
  rcases q with _ | _ | _ | _ | ⟨_, _ | _ | _ | _ | _⟩ <;> simp [hb]

/-- in a top-level query the language makes the move of the automaton, and `stopIfNoMoreMatch` after the step is
    `lenient` of the new state -/
theorem lang_step (q : Q) (ts : List Tok) (hb : bad t = false) :
    match q.step false c t with
    | .go f q' => q.lang c (t :: ts) = q'.lang c ts ∧ (f.simm || q.lenient) = q'.lenient
    | .rej => q.lang c (t :: ts) = false
    | .err => q.lang c (t :: ts) = q.lenient := by
  cases q with
  | start =>
    by_cases h1 : pOnlyNot.eval t = true
    · simp [hb, h1]
    by_cases h2 : pKnown.eval t = true
    · simp [hb, h1, h2]
    by_cases h3 : pLpar.eval t = true
    · simp [hb, h1, h2, h3]
    by_cases h4 : pIdent.eval t = true <;> simp [hb, h1, h2, h3, h4]
  | afterON => by_cases h : pKnown.eval t = true <;> simp [hb, h]
  | afterType k => by_cases h : pAnd.eval t = true <;> simp [hb, h]
  | afterAnd b r => by_cases h : pLpar.eval t = true <;> simp [hb, h]
  | inExpr x e =>
    cases e with
    | lpar => by_cases h : pIdent.eval t = true <;> simp [hb, h]
    | feature =>
      by_cases h : pColon.eval t = true
      · simp [hb, h]
      · by_cases h2 : pRpar.eval t = true <;> simp [hb, h, h2]
    | colon => by_cases h : isValue c t = true <;> simp [hb, h]
    | value => by_cases h : pRpar.eval t = true <;> simp [hb, h]
    | rpar => by_cases h : pAnd.eval t = true <;> cases x <;> simp [hb, h]

end

theorem strip_cons (t : Tok) (ts : List Tok) : strip (t :: ts) = if skip t then strip ts else t :: strip ts := by
  cases hs : t.kind == .s <;> cases hc : t.kind == .comment <;> simp [strip, skip, hs, hc, bne]

/-- the verdict of `MediaQuery(text)` by the way the run ends -/
def Out.wfTop : Out → Bool
  | .done w => w
  | .lost _ _ => true
  | _ => false

theorem OutOK.wf_top {o : Out} {r : Res} (h : OutOK true o r) : r.wf = o.wfTop := by
  cases o <;> first | exact h.1 | exact h

theorem run_lang : ∀ (toks : List Tok) (q : Q), (run false c toks q q.lenient).wfTop = q.lang c (strip toks)
  | [], q => rfl
  | t :: ts, q => by
    rw [strip_cons]
    simp only [run]
    cases hsk : skip t with
    | true => exact run_lang ts q
    | false =>
    simp only [Bool.false_eq_true, if_false]
    cases hb : bad t with
    | true =>
      rw [lang_bad c t q _ hb]
      rfl
    | false =>
    simp only [Bool.false_eq_true, if_false]
    have hl := lang_step c t q (strip ts) hb
    cases hq : q.step false c t with
    | go f q' =>
      rw [hq] at hl
      simp only []
      rw [hl.1, hl.2]
      exact run_lang ts q'
    | rej | err =>
      rw [hq] at hl
      rw [hl]
      cases q.lenient <;> rfl

/-- **Media-query correctness.**  For every token list without an EOF token, `MediaQuery(text)` — the engine of
    `prodparser` running the grammar of `_setMediaText` — is well-formed exactly when the tokens, S and COMMENT
    removed, are in the language `accepts`. -/
theorem mediaQuery_correct (c : List Text) (toks : List Tok) (he : ∀ t ∈ toks, t.kind ≠ .eof) :
    (mediaQuery c toks).wf = accepts c (strip toks) := by
  exact (parse_query false c true true toks he).wf_top.trans (run_lang c toks .start)

/-! ### where the code differs from the documented grammar -/

section
attribute [local simp] andExprs afterAnd afterLpar afterFeature afterColon afterValue docAndExprs docAfterAnd docAfterLpar
  docAfterFeature docAfterColon docAfterValue

theorem strict_eq_doc : ∀ ts : List Tok,
    andExprs c false ts = docAndExprs c ts ∧ afterAnd c false ts = docAfterAnd c ts ∧ afterLpar c false ts = docAfterLpar c ts ∧
    afterFeature c false ts = docAfterFeature c ts ∧ afterColon c false ts = docAfterColon c ts ∧
    afterValue c false ts = docAfterValue c ts := by
  intro ts
  induction ts with
  | nil => simp
  | cons t ts ih =>
    obtain ⟨i1, i2, i3, i4, i5, i6⟩ := ih
    refine ⟨?_, ?_, ?_, ?_, ?_, ?_⟩
    · by_cases hb : bad t = true <;> by_cases h : pAnd.eval t = true <;> simp [hb, h, i2]
    · by_cases hb : bad t = true <;> by_cases h : pLpar.eval t = true <;> simp [hb, h, i3]
    · by_cases hb : bad t = true <;> by_cases h : pIdent.eval t = true <;> simp [hb, h, i4]
    · by_cases hb : bad t = true <;> by_cases h : pColon.eval t = true <;> by_cases h2 : pRpar.eval t = true <;>
        simp [hb, h, h2, i5, i1]
    · by_cases hb : bad t = true <;> by_cases h : isValue c t = true <;> simp [hb, h, i6]
    · by_cases hb : bad t = true <;> by_cases h : pRpar.eval t = true <;> simp [hb, h, i1]

theorem lenient_of_strict : ∀ ts : List Tok,
    (andExprs c false ts = true → andExprs c true ts = true) ∧ (afterAnd c false ts = true → afterAnd c true ts = true) ∧
    (afterLpar c false ts = true → afterLpar c true ts = true) ∧ (afterFeature c false ts = true → afterFeature c true ts = true) ∧
    (afterColon c false ts = true → afterColon c true ts = true) ∧ (afterValue c false ts = true → afterValue c true ts = true) := by
  intro ts
  induction ts with
  | nil => simp
  | cons t ts ih =>
    obtain ⟨i1, i2, i3, i4, i5, i6⟩ := ih
    refine ⟨?_, ?_, ?_, ?_, ?_, ?_⟩
    · by_cases hb : bad t = true <;> by_cases h : pAnd.eval t = true <;> simp [hb, h]; exact i2
    · by_cases hb : bad t = true <;> by_cases h : pLpar.eval t = true <;> simp [hb, h]; exact i3
    · by_cases hb : bad t = true <;> by_cases h : pIdent.eval t = true <;> simp [hb, h]; exact i4
    · by_cases hb : bad t = true <;> by_cases h : pColon.eval t = true <;> by_cases h2 : pRpar.eval t = true <;>
        simp [hb, h, h2] <;> first | exact i5 | exact i1
    · by_cases hb : bad t = true <;> by_cases h : isValue c t = true <;> simp [hb, h]; exact i6
    · by_cases hb : bad t = true <;> by_cases h : pRpar.eval t = true <;> simp [hb, h]; exact i1

end

theorem andExprs_strict (ts : List Tok) : andExprs c false ts = docAndExprs c ts := (strict_eq_doc c ts).1
theorem afterLpar_strict (ts : List Tok) : afterLpar c false ts = docAfterLpar c ts := (strict_eq_doc c ts).2.2.1
theorem andExprs_lenient (ts : List Tok) (h : docAndExprs c ts = true) : andExprs c true ts = true :=
  (lenient_of_strict c ts).1 (by rw [andExprs_strict]; exact h)

theorem known_ident (h : pKnown.eval t = true) : pIdent.eval t = true := by
  simp [pKnown, pIdent, Pred.eval] at h ⊢; exact h.1

theorem known_not_and (h : pKnown.eval t = true) : pAnd.eval t = false := by
  have hk : mediaTypes.contains tAnd = false := by decide
  simp only [pKnown, pAnd, Pred.eval, Bool.and_eq_true] at h ⊢
  cases hn : t.norm == tAnd with
  | false => exact Bool.and_false _
  | true =>
    rw [eq_of_beq hn, hk] at h
    cases h.2

section
attribute [local simp] documented accepts afterOnlyNot docAndExprs

/-- Every documented query is accepted, except `ONLY|NOT` followed by something that is not a known media type
    (hypothesis `hon`): the code reads `only` / `not` as the prefix and then insists on one of `MEDIA_TYPES`.
    `hs`: an opening parenthesis is not an IDENT token (true of every token of the tokenizer). -/
theorem documented_accepted (ts : List Tok) (hd : documented c ts = true)
    (hs : ∀ t rest, ts = t :: rest → pLpar.eval t = true → pIdent.eval t = false)
    (hon : ∀ t rest, ts = t :: rest → pOnlyNot.eval t = true → ∃ u us, rest = u :: us ∧ pKnown.eval u = true) :
    accepts c ts = true := by
  cases ts with
  | nil => simp at hd
  | cons t rest =>
    by_cases hb : bad t = true
    · simp [hb] at hd
    have hlp : pIdent.eval t = true → pLpar.eval t = false := fun hid => by
      cases h : pLpar.eval t with
      | false => rfl
      | true => rw [hs t rest rfl h] at hid; cases hid
    by_cases h1 : pOnlyNot.eval t = true
    · obtain ⟨u, us, rfl, hk⟩ := hon t rest rfl h1
      have hid : pIdent.eval t = true := by simp [pOnlyNot, pIdent, Pred.eval] at h1 ⊢; exact h1.1
      have h3 := hlp hid
      have hna := known_not_and u hk
      simp [hb, h3, h1, hna] at hd
      simp [hb, h1, hd.1, hk]
      exact andExprs_lenient c us hd.2
    by_cases h2 : pKnown.eval t = true
    · have hid := known_ident t h2
      have h3 := hlp hid
      simp [hb, h3, h1, hid] at hd
      simp [hb, h1, h2]
      exact andExprs_lenient c rest hd
    by_cases h3 : pLpar.eval t = true
    · simp [hb, h3] at hd
      simp [hb, h1, h2, h3, afterLpar_strict c rest, hd]
    by_cases h4 : pIdent.eval t = true
    · simp [hb, h3, h1, h4] at hd
      simp [hb, h1, h2, h3, h4, andExprs_strict c rest, hd]
    · simp [hb, h3, h1, h4] at hd

attribute [local simp] knownHead in
theorem accepted_documented_or_knownHead (ts : List Tok) (ha : accepts c ts = true) :
    documented c ts = true ∨ knownHead ts = true := by
  cases ts with
  | nil => simp at ha
  | cons t rest =>
    by_cases hb : bad t = true
    · simp [hb] at ha
    by_cases h1 : pOnlyNot.eval t = true
    · right
      cases rest with
      | nil => simp [hb, h1] at ha
      | cons u us =>
        by_cases hk : pKnown.eval u = true
        · simp [h1, hk]
        · by_cases hbu : bad u = true <;> simp [hb, h1, hk, hbu] at ha
    by_cases h2 : pKnown.eval t = true
    · right; cases rest <;> simp [h2]
    left
    by_cases h3 : pLpar.eval t = true
    · simp [hb, h1, h2, h3] at ha
      simp [hb, h3, ← afterLpar_strict c rest, ha]
    by_cases h4 : pIdent.eval t = true
    · simp [hb, h1, h2, h3, h4] at ha
      simp [hb, h1, h3, h4, ← andExprs_strict c rest, ha]
    · simp [hb, h1, h2, h3, h4] at ha

end

/-! ### concrete queries (kernel-evaluated); no colour names are needed -/

def ident (s : Text) : Tok := { kind := .ident, val := s }
def chr (n : Nat) : Tok := { kind := .char, val := [n] }
def tPrint : Tok := ident [112, 114, 105, 110, 116]
def tFoo : Tok := ident [102, 111, 111]
def tAndTok : Tok := ident tAnd
def tNotTok : Tok := ident tNot
def tWidth : Tok := ident [119, 105, 100, 116, 104]
def tDim : Tok := { kind := .dimension, val := [49, 112, 120] }

/-- `print and (width: 1px)` with white space and a comment: in the language, and the engine says so -/
example : accepts [] (strip [tPrint, ⟨.s, [32], [32]⟩, tAndTok, ⟨.comment, [], []⟩, chr 40, tWidth, chr 58, tDim, chr 41]) = true ∧
    (mediaQuery [] [tPrint, ⟨.s, [32], [32]⟩, tAndTok, ⟨.comment, [], []⟩, chr 40, tWidth, chr 58, tDim, chr 41]).wf = true := by
  decide

/-- `print and ;`, `print and (width 1px)`: accepted, not in the documented grammar (silent truncation) -/
example : accepts [] [tPrint, tAndTok, chr 59] = true ∧ documented [] [tPrint, tAndTok, chr 59] = false ∧
    accepts [] [tPrint, tAndTok, chr 40, tWidth, tDim, chr 41] = true ∧
    documented [] [tPrint, tAndTok, chr 40, tWidth, tDim, chr 41] = false := by decide

/-- the same after an unknown media type is an error -/
example : accepts [] [tFoo, tAndTok, chr 59] = false := by decide

/-- `not foo`: documented (`media_type : IDENT`), rejected; `foo` alone is accepted; `not (width)` is rejected -/
example : documented [] [tNotTok, tFoo] = true ∧ accepts [] [tNotTok, tFoo] = false ∧ accepts [] [tFoo] = true ∧
    accepts [] [tNotTok, chr 40, tWidth, chr 41] = false := by decide

/-- a type after an expression, a trailing `and`, an expression without `and`: rejected -/
example : accepts [] [chr 40, tWidth, chr 41, tAndTok, tPrint] = false ∧ accepts [] [tPrint, tAndTok] = false ∧
    accepts [] [tPrint, chr 40, tWidth, chr 41] = false := by decide

/-- the hypothesis of `mediaQuery_correct` is needed: after an EOF token the end-of-input check is skipped
    (`stopall`), `only EOF` is well-formed -/
example : (mediaQuery [] [ident tOnly, ⟨.eof, [], []⟩]).wf = true ∧ accepts [] (strip [ident tOnly, ⟨.eof, [], []⟩]) = false := by
  decide

end CssVerif.PP.MQ
