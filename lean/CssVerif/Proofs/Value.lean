/-
The value grammar (`Model/Value`): `RValue v ts` says that the tokens `ts` are a writing of the value `v` — white
space and comments at every boundary, obligatory white space around `+` and `-` in calc().  The parser reads every
writing of a value as that value (`pvalue_ok`), a writing without its comments is a writing of the same value
(`dc_value`), and what the serialiser writes is a writing (`ser_value`).
-/
import CssVerif.Model.Value
namespace CssVerif.Value

/-! ### writings: every way to write a value as tokens -/

def AllGap (g : List VT) : Prop := ∀ t ∈ g, isGap t = true
def HasWs (g : List VT) : Prop := AllGap g ∧ VT.ws ∈ g

/-- the components of a colour function after the first, up to `)` -/
def RComps : List (Bool × VT) → List VT → Prop
  | [], ts => ∃ g, AllGap g ∧ ts = g ++ [.rparen]
  | (comma, c) :: l, ts => ∃ g1 g2 tt, AllGap g1 ∧ AllGap g2 ∧ isComponent c = true ∧ RComps l tt ∧
      ((comma = false ∧ ts = g1 ++ c :: tt) ∨ (comma = true ∧ ts = g1 ++ .comma :: (g2 ++ c :: tt)))

/-- operator / operand pairs of calc(), up to `)` -/
def RCalc : List (VT × VT) → List VT → Prop
  | [], ts => ∃ g, AllGap g ∧ ts = g ++ [.rparen]
  | (op, x) :: l, ts => ∃ g1 g2 tt, isOperand x = true ∧ RCalc l tt ∧ ts = g1 ++ op :: (g2 ++ x :: tt) ∧
      (((op = .star ∨ op = .slash) ∧ AllGap g1 ∧ AllGap g2) ∨ ((op = .plus ∨ op = .minus) ∧ HasWs g1 ∧ HasWs g2))

mutual
  def RComp : Comp → List VT → Prop
    | .atom k, ts => isAtom k = true ∧ ts = [k]
    | .fn a, ts => ∃ tt, RArgs true a tt ∧ ts = .func :: tt
    | .colorFn al l, ts =>
      match l with
      | (false, c) :: l' => ∃ g tt, AllGap g ∧ isComponent c = true ∧ RComps l' tt ∧
          l'.length + 1 = (if al then 4 else 3) ∧ ts = .colorFunc al :: (g ++ c :: tt)
      | _ => False
    | .calc x l, ts => ∃ g tt, AllGap g ∧ isOperand x = true ∧ RCalc l tt ∧ ts = .calcFunc :: (g ++ x :: tt)
  def RArgs : Bool → Args → List VT → Prop
    | _, .nil, ts => ∃ g, AllGap g ∧ ts = g ++ [.rparen]
    | first, .cons comma c tl, ts => ∃ g1 g2 tc tt, AllGap g1 ∧ AllGap g2 ∧ RComp c tc ∧ RArgs false tl tt ∧
        ((comma = false ∧ ts = g1 ++ (tc ++ tt)) ∨ (comma = true ∧ first = false ∧ ts = g1 ++ .comma :: (g2 ++ (tc ++ tt))))
end

/-- the terms after the first, to the end -/
def RMore : Value → List VT → Prop
  | [], ts => AllGap ts
  | (sep, c) :: v, ts => ∃ g1 g2 tc tt, AllGap g1 ∧ AllGap g2 ∧ RComp c tc ∧ RMore v tt ∧
      ((sep = .none ∧ ts = g1 ++ (tc ++ tt)) ∨ (sep = .comma ∧ ts = g1 ++ .comma :: (g2 ++ (tc ++ tt))) ∨
       (sep = .slash ∧ ts = g1 ++ .slash :: (g2 ++ (tc ++ tt))))

/-- all token sequences that write the value `v` -/
def RValue : Value → List VT → Prop
  | (.none, c) :: v, ts => ∃ g tc tt, AllGap g ∧ RComp c tc ∧ RMore v tt ∧ ts = g ++ (tc ++ tt)
  | _, _ => False

/-- `parseComments=False` -/
def dropComments (ts : List VT) : List VT := ts.filter (fun t => t != .comment)

def NoGapHead : List VT → Prop
  | [] => True
  | t :: _ => isGap t = false

theorem skipGap_gap {g : List VT} (r : List VT) (hg : AllGap g) : skipGap (g ++ r) = skipGap r := by
  induction g with
  | nil => rfl
  | cons t g ih =>
    have ht : isGap t = true := hg t (List.mem_cons_self ..)
    simp only [List.cons_append, skipGap, ht, if_true]
    exact ih (fun x hx => hg x (List.mem_cons_of_mem _ hx))

theorem skipGap_append {g r : List VT} (hg : AllGap g) (hr : NoGapHead r) : skipGap (g ++ r) = r := by
  rw [skipGap_gap r hg]
  cases r with
  | nil => rfl
  | cons t r => simp only [NoGapHead] at hr; simp [skipGap, hr]

theorem gap_cases (t : VT) (h : isGap t = true) : t = .ws ∨ t = .comment := by
  cases t <;> simp [isGap] at h ⊢

theorem takeWs_head (t : VT) (r : List VT) (h : isGap t = false) : takeWs (t :: r) = (false, t :: r) := by
  cases t <;> first | rfl | cases h

theorem takeWs_append {g r : List VT} (hg : AllGap g) (hr : NoGapHead r) :
    takeWs (g ++ r) = (decide (VT.ws ∈ g), r) := by
  induction g with
  | nil =>
    cases r with
    | nil => rfl
    | cons t r => simpa using takeWs_head t r hr
  | cons t g ih =>
    have ih' := ih (fun x hx => hg x (List.mem_cons_of_mem _ hx))
    rcases gap_cases t (hg t (List.mem_cons_self ..)) with rfl | rfl <;> simp [takeWs, ih']

theorem takeWs_hasWs {g r : List VT} (h : HasWs g) (hr : NoGapHead r) : takeWs (g ++ r) = (true, r) := by
  rw [takeWs_append h.1 hr]; simp [h.2]

theorem component_cases {c : VT} (h : isComponent c = true) : c = .num ∨ c = .pct := by
  cases c <;> simp_all [isComponent]

theorem operand_cases {c : VT} (h : isOperand c = true) : c = .num ∨ c = .pct ∨ c = .dim := by
  cases c <;> simp_all [isOperand]

/-- `h` read as a fact about the list: it tells `rw [skipGap_append …]` which list is meant -/
theorem NoGapHead.cons {t : VT} (r : List VT) (h : isGap t = false) : NoGapHead (t :: r) := h

theorem pcomps_ok : ∀ (l : List (Bool × VT)) (ts rest : List VT) (f : Nat), RComps l ts → ts.length < f →
    pcomps f (ts ++ rest) = some (l, rest) := by
  intro l
  induction l with
  | nil =>
    intro ts rest f h hf
    obtain ⟨g, hg, rfl⟩ := h
    obtain ⟨f, rfl⟩ : ∃ k, f = k + 1 := ⟨f - 1, by omega⟩
    simp only [pcomps, List.append_assoc, List.singleton_append]
    rw [skipGap_append hg (NoGapHead.cons rest rfl)]
  | cons p l ih =>
    obtain ⟨comma, c⟩ := p
    intro ts rest f h hf
    obtain ⟨g1, g2, tt, hg1, hg2, hc, hl, hts⟩ := h
    obtain ⟨f, rfl⟩ : ∃ k, f = k + 1 := ⟨f - 1, by omega⟩
    have hcg : isGap c = false := by rcases component_cases hc with rfl | rfl <;> rfl
    rcases hts with ⟨rfl, rfl⟩ | ⟨rfl, rfl⟩
    all_goals
      have hlen : tt.length < f := by simp at hf; omega
      simp only [pcomps, List.append_assoc, List.cons_append]
    · rw [skipGap_append hg1 (NoGapHead.cons _ hcg)]
      rcases component_cases hc with rfl | rfl <;> simp [isComponent, ih tt rest f hl hlen]
    · rw [skipGap_append hg1 (NoGapHead.cons _ rfl)]
      simp only []
      rw [skipGap_append hg2 (NoGapHead.cons _ hcg)]
      simp [hc, ih tt rest f hl hlen]

theorem pcalc_ok : ∀ (l : List (VT × VT)) (ts rest : List VT) (f : Nat), RCalc l ts → ts.length < f →
    pcalcRest f (ts ++ rest) = some (l, rest) := by
  intro l
  induction l with
  | nil =>
    intro ts rest f h hf
    obtain ⟨g, hg, rfl⟩ := h
    obtain ⟨f, rfl⟩ : ∃ k, f = k + 1 := ⟨f - 1, by omega⟩
    simp only [pcalcRest, List.append_assoc, List.singleton_append]
    rw [takeWs_append hg (NoGapHead.cons rest rfl)]
  | cons p l ih =>
    obtain ⟨op, x⟩ := p
    intro ts rest f h hf
    obtain ⟨g1, g2, tt, hx, hl, rfl, hop⟩ := h
    obtain ⟨f, rfl⟩ : ∃ k, f = k + 1 := ⟨f - 1, by omega⟩
    have hxg : isGap x = false := by rcases operand_cases hx with rfl | rfl | rfl <;> rfl
    have hlen : tt.length < f := by simp at hf; omega
    have ihh := ih tt rest f hl hlen
    simp only [pcalcRest, List.append_assoc, List.cons_append]
    rcases hop with ⟨hop, hg1, hg2⟩ | ⟨hop, hg1, hg2⟩
    · have hog : isGap op = false := by rcases hop with rfl | rfl <;> rfl
      rw [takeWs_append hg1 (NoGapHead.cons _ hog)]
      rcases hop with rfl | rfl
      all_goals
        simp only [true_or, or_true, if_true]
        rw [skipGap_append hg2 (NoGapHead.cons _ hxg)]
        simp [hx, ihh]
    · have hog : isGap op = false := by rcases hop with rfl | rfl <;> rfl
      rw [takeWs_hasWs hg1 (NoGapHead.cons _ hog)]
      rcases hop with rfl | rfl
      all_goals
        simp only [takeWs_hasWs hg2 (NoGapHead.cons _ hxg)]
        simp [hx, ihh]

def TermHead (t : VT) : Prop := isGap t = false ∧ t ≠ .rparen ∧ t ≠ .comma ∧ t ≠ .slash

theorem rcomp_head {c : Comp} {tc : List VT} (h : RComp c tc) : ∃ t tl, tc = t :: tl ∧ TermHead t := by
  cases c with
  | atom k =>
    simp only [RComp] at h
    obtain ⟨hk, rfl⟩ := h
    refine ⟨k, [], rfl, ?_⟩
    cases k <;> simp_all [isAtom, TermHead, isGap]
  | fn a =>
    simp only [RComp] at h
    obtain ⟨tt, _, rfl⟩ := h
    exact ⟨.func, tt, rfl, by simp [TermHead, isGap]⟩
  | colorFn al l =>
    simp only [RComp] at h
    split at h
    · obtain ⟨g, tt, _, _, _, _, rfl⟩ := h
      exact ⟨.colorFunc al, _, rfl, by simp [TermHead, isGap]⟩
    · exact absurd h id
  | «calc» x l =>
    simp only [RComp] at h
    obtain ⟨g, tt, _, _, _, rfl⟩ := h
    exact ⟨.calcFunc, _, rfl, by simp [TermHead, isGap]⟩

theorem pargs_term (f : Nat) (first : Bool) (g : List VT) (t : VT) (r : List VT) (hg : AllGap g) (h : TermHead t) (c : Comp)
    (r' : List VT) (hp : pterm f (t :: r) = some (c, r')) :
    pargs (f + 1) first (g ++ t :: r) = (pargs f false r').map (fun (a, r'') => (Args.cons false c a, r'')) := by
  obtain ⟨ht, h1, h2, _⟩ := h
  simp only [pargs, skipGap_gap _ hg]
  cases t <;> simp_all [skipGap, isGap]

mutual
  theorem pterm_ok : ∀ (c : Comp) (ts rest : List VT) (f : Nat), RComp c ts → ts.length < f →
      pterm f (ts ++ rest) = some (c, rest)
    | .atom k, ts, rest, f, h, hf => by
      simp only [RComp] at h
      obtain ⟨hk, rfl⟩ := h
      obtain ⟨f, rfl⟩ : ∃ k, f = k + 1 := ⟨f - 1, by omega⟩
      simp [pterm, hk]
    | .fn a, ts, rest, f, h, hf => by
      simp only [RComp] at h
      obtain ⟨tt, ha, rfl⟩ := h
      obtain ⟨f, rfl⟩ : ∃ k, f = k + 1 := ⟨f - 1, by omega⟩
      have := pargs_ok a true tt rest f ha (by simp at hf; omega)
      simp [pterm, isAtom, this]
    | .colorFn al l, ts, rest, f, h, hf => by
      simp only [RComp] at h
      split at h
      · rename_i c l'
        obtain ⟨g, tt, hg, hc, hl, hn, rfl⟩ := h
        obtain ⟨f, rfl⟩ : ∃ k, f = k + 1 := ⟨f - 1, by omega⟩
        have hcg : isGap c = false := by rcases component_cases hc with rfl | rfl <;> rfl
        have hp := pcomps_ok l' tt rest ((tt ++ rest).length + 1) hl (by simp; omega)
        simp only [pterm, isAtom, List.cons_append, List.append_assoc, Bool.false_eq_true, if_false]
        rw [skipGap_append hg (NoGapHead.cons _ hcg)]
        simp only [hc, if_true, hp, hn]
      · exact absurd h id
    | .calc x l, ts, rest, f, h, hf => by
      simp only [RComp] at h
      obtain ⟨g, tt, hg, hx, hl, rfl⟩ := h
      obtain ⟨f, rfl⟩ : ∃ k, f = k + 1 := ⟨f - 1, by omega⟩
      have hxg : isGap x = false := by rcases operand_cases hx with rfl | rfl | rfl <;> rfl
      have hp := pcalc_ok l tt rest ((tt ++ rest).length + 1) hl (by simp; omega)
      simp only [pterm, isAtom, List.cons_append, List.append_assoc, Bool.false_eq_true, if_false]
      rw [skipGap_append hg (NoGapHead.cons _ hxg)]
      simp only [hx, if_true, hp]
      rfl
  theorem pargs_ok : ∀ (a : Args) (first : Bool) (ts rest : List VT) (f : Nat), RArgs first a ts → ts.length < f →
      pargs f first (ts ++ rest) = some (a, rest)
    | .nil, first, ts, rest, f, h, hf => by
      simp only [RArgs] at h
      obtain ⟨g, hg, rfl⟩ := h
      obtain ⟨f, rfl⟩ : ∃ k, f = k + 1 := ⟨f - 1, by omega⟩
      simp only [pargs, List.append_assoc, List.singleton_append]
      rw [skipGap_append hg (NoGapHead.cons rest rfl)]
    | .cons comma c tl, first, ts, rest, f, h, hf => by
      simp only [RArgs] at h
      obtain ⟨g1, g2, tc, tt, hg1, hg2, hc, htl, hts⟩ := h
      obtain ⟨f, rfl⟩ : ∃ k, f = k + 1 := ⟨f - 1, by omega⟩
      obtain ⟨t, tl', rfl, hth⟩ := rcomp_head hc
      have hne : 0 < tt.length := by
        cases tl <;> simp only [RArgs] at htl
        · obtain ⟨g, _, rfl⟩ := htl; simp
        · obtain ⟨_, _, tc', _, _, _, hc', _, h'⟩ := htl
          obtain ⟨t', _, rfl, _⟩ := rcomp_head hc'
          rcases h' with ⟨_, rfl⟩ | ⟨_, _, rfl⟩ <;> simp <;> omega
      rcases hts with ⟨rfl, rfl⟩ | ⟨rfl, rfl, rfl⟩
      all_goals
        have h1 := pterm_ok c (t :: tl') (tt ++ rest) f hc (by simp at hf ⊢; omega)
        have h2 := pargs_ok tl false tt rest f htl (by simp at hf ⊢; omega)
      · simp only [List.append_assoc, List.cons_append]
        rw [pargs_term f first g1 t (tl' ++ (tt ++ rest)) hg1 hth c (tt ++ rest) h1, h2]
        rfl
      · have e : (g1 ++ VT.comma :: (g2 ++ (t :: tl' ++ tt))) ++ rest =
            g1 ++ (VT.comma :: (g2 ++ ((t :: tl') ++ (tt ++ rest)))) := by simp
        rw [e]
        simp only [pargs]
        rw [skipGap_append hg1 (NoGapHead.cons _ rfl)]
        simp only [Bool.false_eq_true, if_false]
        rw [skipGap_append hg2 (by exact NoGapHead.cons _ hth.1), h1]
        simp [h2]
end

theorem skipGap_all (g : List VT) (hg : AllGap g) : skipGap g = [] := by
  have := skipGap_append (r := []) hg trivial
  simpa using this

theorem pmore_term (f : Nat) (g : List VT) (t : VT) (r : List VT) (hg : AllGap g) (h : TermHead t) (c : Comp) (r' : List VT)
    (hp : pterm (r.length + 2) (t :: r) = some (c, r')) :
    pmore (f + 1) (g ++ t :: r) = (pmore f r').map (fun v => (Sep.none, c) :: v) := by
  obtain ⟨ht, h1, h2, h3⟩ := h
  simp only [pmore, skipGap_gap _ hg]
  cases t <;> simp_all [skipGap, isGap]

theorem pmore_ok : ∀ (v : Value) (ts : List VT) (f : Nat), RMore v ts → ts.length < f → pmore f ts = some v := by
  intro v
  induction v with
  | nil =>
    intro ts f h hf
    simp only [RMore] at h
    obtain ⟨f, rfl⟩ : ∃ k, f = k + 1 := ⟨f - 1, by omega⟩
    simp [pmore, skipGap_all ts h]
  | cons p v ih =>
    obtain ⟨sep, c⟩ := p
    intro ts f h hf
    simp only [RMore] at h
    obtain ⟨g1, g2, tc, tt, hg1, hg2, hc, hv, hts⟩ := h
    obtain ⟨f, rfl⟩ : ∃ k, f = k + 1 := ⟨f - 1, by omega⟩
    obtain ⟨t, tl', rfl, hth⟩ := rcomp_head hc
    rcases hts with ⟨rfl, rfl⟩ | ⟨rfl, rfl⟩ | ⟨rfl, rfl⟩
    · have h2 := ih tt f hv (by simp at hf; omega)
      have h1 := pterm_ok c (t :: tl') tt ((tl' ++ tt).length + 2) hc (by simp; omega)
      simp only [List.cons_append]
      rw [pmore_term f g1 t (tl' ++ tt) hg1 hth c tt h1, h2]
      rfl
    all_goals
      have h2 := ih tt f hv (by simp at hf; omega)
      have h1 := pterm_ok c (t :: tl') tt ((g2 ++ (t :: tl' ++ tt)).length + 1) hc (by simp; omega)
      simp only [pmore]
      rw [skipGap_append hg1]
      · simp only []
        rw [skipGap_append hg2 (by exact NoGapHead.cons _ hth.1), h1]
        simp [h2]
      · rfl

/-- **the parser reads every writing of a value as that value** -/
theorem pvalue_ok (v : Value) (ts : List VT) (h : RValue v ts) : pvalue ts = some v := by
  cases v with
  | nil => exact absurd h id
  | cons p v =>
    obtain ⟨sep, c⟩ := p
    cases sep <;> simp only [RValue] at h
    obtain ⟨g, tc, tt, hg, hc, hv, rfl⟩ := h
    obtain ⟨t, tl', rfl, hth⟩ := rcomp_head hc
    have h1 := pterm_ok c (t :: tl') tt ((g ++ (t :: tl' ++ tt)).length + 1) hc (by simp; omega)
    have h2 := pmore_ok v tt (tt.length + 1) hv (by omega)
    simp only [pvalue]
    rw [skipGap_append hg (by exact NoGapHead.cons _ hth.1), h1]
    simp [h2]

/-! ### removing the comments (`parseComments=False`) keeps a writing a writing of the same value -/

theorem dc_append (a b : List VT) : dropComments (a ++ b) = dropComments a ++ dropComments b := by
  simp [dropComments]

theorem dc_cons (t : VT) (l : List VT) (h : t ≠ .comment) : dropComments (t :: l) = t :: dropComments l := by
  simp [dropComments, h]

theorem dc_gap {g : List VT} (h : AllGap g) : AllGap (dropComments g) := by
  intro t ht
  simp only [dropComments, List.mem_filter] at ht
  exact h t ht.1

theorem dc_ws {g : List VT} (h : HasWs g) : HasWs (dropComments g) := by
  refine ⟨dc_gap h.1, ?_⟩
  simp only [dropComments, List.mem_filter]
  exact ⟨h.2, by decide⟩

theorem component_ne {c : VT} (h : isComponent c = true) : c ≠ .comment := by
  rcases component_cases h with rfl | rfl <;> decide

theorem operand_ne {c : VT} (h : isOperand c = true) : c ≠ .comment := by
  rcases operand_cases h with rfl | rfl | rfl <;> decide

theorem dc_comps : ∀ (l : List (Bool × VT)) (ts : List VT), RComps l ts → RComps l (dropComments ts) := by
  intro l
  induction l with
  | nil =>
    intro ts h
    obtain ⟨g, hg, rfl⟩ := h
    exact ⟨dropComments g, dc_gap hg, by rw [dc_append]; rfl⟩
  | cons p l ih =>
    obtain ⟨comma, c⟩ := p
    intro ts h
    obtain ⟨g1, g2, tt, hg1, hg2, hc, hl, hts⟩ := h
    refine ⟨dropComments g1, dropComments g2, dropComments tt, dc_gap hg1, dc_gap hg2, hc, ih tt hl, ?_⟩
    rcases hts with ⟨rfl, rfl⟩ | ⟨rfl, rfl⟩
    · left; exact ⟨rfl, by rw [dc_append, dc_cons c _ (component_ne hc)]⟩
    · right
      exact ⟨rfl, by rw [dc_append, dc_cons .comma _ (by decide), dc_append, dc_cons c _ (component_ne hc)]⟩

theorem dc_calc : ∀ (l : List (VT × VT)) (ts : List VT), RCalc l ts → RCalc l (dropComments ts) := by
  intro l
  induction l with
  | nil =>
    intro ts h
    obtain ⟨g, hg, rfl⟩ := h
    exact ⟨dropComments g, dc_gap hg, by rw [dc_append]; rfl⟩
  | cons p l ih =>
    obtain ⟨op, x⟩ := p
    intro ts h
    obtain ⟨g1, g2, tt, hx, hl, rfl, hop⟩ := h
    have hopne : op ≠ .comment := by
      rcases hop with ⟨h | h, _⟩ | ⟨h | h, _⟩ <;> subst h <;> decide
    refine ⟨dropComments g1, dropComments g2, dropComments tt, hx, ih tt hl, ?_, ?_⟩
    · rw [dc_append, dc_cons op _ hopne, dc_append, dc_cons x _ (operand_ne hx)]
    · rcases hop with ⟨h, hg1, hg2⟩ | ⟨h, hg1, hg2⟩
      · exact Or.inl ⟨h, dc_gap hg1, dc_gap hg2⟩
      · exact Or.inr ⟨h, dc_ws hg1, dc_ws hg2⟩

mutual
  theorem dc_comp : ∀ (c : Comp) (ts : List VT), RComp c ts → RComp c (dropComments ts)
    | .atom k, ts, h => by
      simp only [RComp] at h ⊢
      obtain ⟨hk, rfl⟩ := h
      refine ⟨hk, ?_⟩
      rw [dc_cons k [] (by cases k <;> simp_all [isAtom])]
      rfl
    | .fn a, ts, h => by
      simp only [RComp] at h ⊢
      obtain ⟨tt, ha, rfl⟩ := h
      exact ⟨dropComments tt, dc_args a true tt ha, dc_cons .func _ (by decide)⟩
    | .colorFn al l, ts, h => by
      simp only [RComp] at h ⊢
      split at h
      · rename_i c l'
        obtain ⟨g, tt, hg, hc, hl, hn, rfl⟩ := h
        refine ⟨dropComments g, dropComments tt, dc_gap hg, hc, dc_comps l' tt hl, hn, ?_⟩
        rw [dc_cons (.colorFunc al) _ (by simp), dc_append, dc_cons c _ (component_ne hc)]
      · exact absurd h id
    | .calc x l, ts, h => by
      simp only [RComp] at h ⊢
      obtain ⟨g, tt, hg, hx, hl, rfl⟩ := h
      refine ⟨dropComments g, dropComments tt, dc_gap hg, hx, dc_calc l tt hl, ?_⟩
      rw [dc_cons .calcFunc _ (by decide), dc_append, dc_cons x _ (operand_ne hx)]
  theorem dc_args : ∀ (a : Args) (first : Bool) (ts : List VT), RArgs first a ts → RArgs first a (dropComments ts)
    | .nil, first, ts, h => by
      simp only [RArgs] at h ⊢
      obtain ⟨g, hg, rfl⟩ := h
      exact ⟨dropComments g, dc_gap hg, by rw [dc_append]; rfl⟩
    | .cons comma c tl, first, ts, h => by
      simp only [RArgs] at h ⊢
      obtain ⟨g1, g2, tc, tt, hg1, hg2, hc, htl, hts⟩ := h
      refine ⟨dropComments g1, dropComments g2, dropComments tc, dropComments tt, dc_gap hg1, dc_gap hg2,
        dc_comp c tc hc, dc_args tl false tt htl, ?_⟩
      rcases hts with ⟨rfl, rfl⟩ | ⟨rfl, rfl, rfl⟩
      · left; exact ⟨rfl, by rw [dc_append, dc_append]⟩
      · right
        exact ⟨rfl, rfl, by rw [dc_append, dc_cons .comma _ (by decide), dc_append, dc_append]⟩
end

theorem dc_more : ∀ (v : Value) (ts : List VT), RMore v ts → RMore v (dropComments ts) := by
  intro v
  induction v with
  | nil => intro ts h; simp only [RMore] at h ⊢; exact dc_gap h
  | cons p v ih =>
    obtain ⟨sep, c⟩ := p
    intro ts h
    simp only [RMore] at h ⊢
    obtain ⟨g1, g2, tc, tt, hg1, hg2, hc, hv, hts⟩ := h
    refine ⟨dropComments g1, dropComments g2, dropComments tc, dropComments tt, dc_gap hg1, dc_gap hg2,
      dc_comp c tc hc, ih tt hv, ?_⟩
    rcases hts with ⟨rfl, rfl⟩ | ⟨rfl, rfl⟩ | ⟨rfl, rfl⟩
    · left; exact ⟨rfl, by rw [dc_append, dc_append]⟩
    · right; left; exact ⟨rfl, by rw [dc_append, dc_cons .comma _ (by decide), dc_append, dc_append]⟩
    · right; right; exact ⟨rfl, by rw [dc_append, dc_cons .slash _ (by decide), dc_append, dc_append]⟩

theorem dc_value (v : Value) (ts : List VT) (h : RValue v ts) : RValue v (dropComments ts) := by
  cases v with
  | nil => exact absurd h id
  | cons p v =>
    obtain ⟨sep, c⟩ := p
    cases sep <;> simp only [RValue] at h ⊢
    obtain ⟨g, tc, tt, hg, hc, hv, rfl⟩ := h
    exact ⟨dropComments g, dropComments tc, dropComments tt, dc_gap hg, dc_comp c tc hc, dc_more v tt hv,
      by rw [dc_append, dc_append]⟩

/-! ### what the serialiser writes is a writing of the value, for every preference -/

theorem gap_nil : AllGap [] := by intro t ht; simp at ht
theorem gap_ws : AllGap [VT.ws] := by intro t ht; simp at ht; subst ht; rfl
theorem hasws_ws : HasWs [VT.ws] := ⟨gap_ws, by simp⟩
theorem gap_lsp (p : SerPrefs) : AllGap (lsp p) := by
  unfold lsp; split
  · exact gap_nil
  · exact gap_ws

theorem ser_comps (p : SerPrefs) : ∀ l, wfComps l = true → RComps l (serComps p l) := by
  intro l
  induction l with
  | nil => intro _; exact ⟨[], gap_nil, rfl⟩
  | cons q l ih =>
    obtain ⟨comma, c⟩ := q
    intro h
    simp only [wfComps, Bool.and_eq_true] at h
    cases comma
    · exact ⟨[.ws], [], _, gap_ws, gap_nil, h.1, ih h.2, Or.inl ⟨rfl, by simp [serComps]⟩⟩
    · exact ⟨[], lsp p, _, gap_nil, gap_lsp p, h.1, ih h.2, Or.inr ⟨rfl, by simp [serComps]⟩⟩

theorem ser_calc : ∀ l, wfCalc l = true → RCalc l (serCalc l) := by
  intro l
  induction l with
  | nil => intro _; exact ⟨[], gap_nil, rfl⟩
  | cons q l ih =>
    obtain ⟨op, x⟩ := q
    intro h
    simp only [wfCalc, Bool.and_eq_true] at h
    obtain ⟨⟨hop, hx⟩, hl⟩ := h
    refine ⟨[.ws], [.ws], _, hx, ih hl, by simp [serCalc], ?_⟩
    simp only [isOp, Bool.or_eq_true, beq_iff_eq] at hop
    rcases hop with ((h | h) | h) | h
    · exact Or.inl ⟨Or.inl h, gap_ws, gap_ws⟩
    · exact Or.inl ⟨Or.inr h, gap_ws, gap_ws⟩
    · exact Or.inr ⟨Or.inl h, hasws_ws, hasws_ws⟩
    · exact Or.inr ⟨Or.inr h, hasws_ws, hasws_ws⟩

mutual
  theorem ser_comp (p : SerPrefs) : ∀ c, wfComp c = true → RComp c (serComp p c)
    | .atom k, h => by
      simp only [wfComp] at h
      simp only [RComp, serComp]
      exact ⟨h, trivial⟩
    | .fn a, h => by
      simp only [wfComp] at h
      simp only [RComp, serComp]
      exact ⟨_, ser_args p a true h, rfl⟩
    | .colorFn al l, h => by
      simp only [wfComp] at h
      split at h
      · rename_i c l'
        simp only [Bool.and_eq_true, beq_iff_eq] at h
        simp only [RComp, serComp]
        exact ⟨[], _, gap_nil, h.1.1, ser_comps p l' h.1.2, h.2, rfl⟩
      · exact absurd h (by simp)
    | .calc x l, h => by
      simp only [wfComp, Bool.and_eq_true] at h
      simp only [RComp, serComp]
      exact ⟨[], _, gap_nil, h.1, ser_calc l h.2, rfl⟩
  theorem ser_args (p : SerPrefs) : ∀ a first, wfArgs first a = true → RArgs first a (serArgs p first a)
    | .nil, first, _ => by
      simp only [RArgs, serArgs]
      exact ⟨[], gap_nil, rfl⟩
    | .cons comma c tl, first, h => by
      simp only [wfArgs, Bool.and_eq_true, Bool.not_eq_true', Bool.and_eq_false_iff] at h
      obtain ⟨⟨hcf, hc⟩, htl⟩ := h
      simp only [RArgs, serArgs]
      cases comma
      · refine ⟨if first then [] else [.ws], [], _, _, ?_, gap_nil, ser_comp p c hc, ser_args p tl false htl,
          Or.inl ⟨rfl, by simp⟩⟩
        split
        · exact gap_nil
        · exact gap_ws
      · have hf : first = false := by simpa using hcf
        exact ⟨[], lsp p, _, _, gap_nil, gap_lsp p, ser_comp p c hc, ser_args p tl false htl,
          Or.inr ⟨rfl, hf, by simp⟩⟩
end

theorem ser_more (p : SerPrefs) : ∀ v, wfMore v = true → RMore v (serMore p v) := by
  intro v
  induction v with
  | nil => intro _; simp only [RMore, serMore]; exact gap_nil
  | cons q v ih =>
    obtain ⟨sep, c⟩ := q
    intro h
    simp only [wfMore, Bool.and_eq_true] at h
    simp only [RMore]
    cases sep
    · exact ⟨[.ws], [], _, _, gap_ws, gap_nil, ser_comp p c h.1, ih h.2, Or.inl ⟨rfl, by simp [serMore]⟩⟩
    · exact ⟨[], lsp p, _, _, gap_nil, gap_lsp p, ser_comp p c h.1, ih h.2, Or.inr (Or.inl ⟨rfl, by simp [serMore]⟩)⟩
    · exact ⟨[], [], _, _, gap_nil, gap_nil, ser_comp p c h.1, ih h.2, Or.inr (Or.inr ⟨rfl, by simp [serMore]⟩)⟩

theorem ser_value (p : SerPrefs) (v : Value) (h : wfValue v = true) : RValue v (serValue p v) := by
  cases v with
  | nil => simp [wfValue] at h
  | cons q v =>
    obtain ⟨sep, c⟩ := q
    cases sep <;> simp only [wfValue, Bool.and_eq_true] at h
    · simp only [RValue, serValue]
      exact ⟨[], _, _, gap_nil, ser_comp p c h.1, ser_more p v h.2, by simp⟩
    all_goals exact absurd h (by simp)

end CssVerif.Value
