/-
First-character analysis of productions (`first`, `canStart`), the productions a position passes over (`Skipped`),
and the first production of a given name when no earlier one can start with the current character.
-/
import CssVerif.Proofs.Tokenizer
namespace CssVerif
open Re

namespace Re

/-- over-approximation: can `r` consume `c` as the first character of a match? -/
def first : Re → Nat → Bool
  | eps, _ => false
  | cls neg rs, c => clsMatch neg rs c
  | seq a b, c => first a c || (nullable a && first b c)
  | alt a b, c => first a c || first b c
  | star a, c => first a c
  | opt a, c => first a c
  | lazyStar a, c => first a c
  | ahead _, _ => false
  | nahead _ _, _ => false

/-- `canStart r c`: a non-nullable `r` can match at the front of a text starting with `c` only if
this holds -/
def canStart (r : Re) (c : Nat) : Bool := nullable r || first r c

theorem first_false : ∀ (r : Re) (c : Nat) (s : Text), first r c = false →
    ∀ t ∈ ms r (c :: s), t = c :: s := by
  intro r
  induction r with
  | eps => intro c s _ t ht; simpa [ms] using ht
  | cls neg rs => intro c s h t ht; simp only [first] at h; simp [ms, h] at ht
  | seq a b iha ihb =>
    intro c s h t ht
    simp only [first, Bool.or_eq_false_iff, Bool.and_eq_false_iff] at h
    simp only [ms, List.mem_flatMap] at ht
    obtain ⟨u, hu, htu⟩ := ht
    have hu' := iha c s h.1 u hu
    subst hu'
    rcases h.2 with hn | hb
    · have := ms_progress a hn _ _ hu
      simp at this
    · exact ihb c s hb t htu
  | alt a b iha ihb =>
    intro c s h t ht
    simp only [first, Bool.or_eq_false_iff] at h
    simp only [ms, List.mem_append] at ht
    rcases ht with ht | ht
    · exact iha c s h.1 t ht
    · exact ihb c s h.2 t ht
  | star a iha => intro c s h t ht; exact starIter_of_stuck (iha c s h) _ t ht
  | opt a iha =>
    intro c s h t ht
    simp only [first] at h
    simp only [ms, List.mem_append, List.mem_singleton] at ht
    rcases ht with ht | ht
    · exact iha c s h t ht
    · exact ht
  | lazyStar a iha => intro c s h t ht; exact starIter_of_stuck (iha c s h) _ t (mem_lazyIter.mp ht)
  | ahead _ | nahead _ _ =>
    intro c s _ t ht
    simp only [ms] at ht
    split at ht <;> simp_all

theorem canStart_false (r : Re) (c : Nat) (s : Text) (h : canStart r c = false) : ms r (c :: s) = [] := by
  simp only [canStart, Bool.or_eq_false_iff] at h
  apply List.eq_nil_iff_forall_not_mem.mpr
  intro t ht
  have h1 := first_false r c s h.2 t ht
  have h2 := ms_progress r h.1 _ _ ht
  subst h1
  simp at h2

theorem exec_none_of_canStart_false (r : Re) (c : Nat) (s : Text) (h : canStart r c = false) :
    exec r (c :: s) = none := by
  rw [exec_eq_head, canStart_false r c s h]; rfl

end Re

theorem matchProd_none_of_ms_nil (p : Prod) (prev : Option Nat) (s : Text) (h : ms p.re s = []) :
    matchProd p prev s = none := by
  unfold matchProd
  have := exec_none_of_ms_nil p.re s h
  split
  · split <;> simp [this]
  · exact this

theorem matchProd_some_of_head (p : Prod) (hna : p.notAfter = none) (prev : Option Nat) (s t : Text)
    (h : (ms p.re s).head? = some t) : matchProd p prev s = some t := by
  simp only [matchProd, hna]
  exact exec_some_of_head p.re s t h

theorem matchProd_none_of_canStart (p : Prod) (prev : Option Nat) (c : Nat) (s : Text)
    (h : canStart p.re c = false) : matchProd p prev (c :: s) = none :=
  matchProd_none_of_ms_nil p prev _ (canStart_false p.re c s h)

/-- production `q` is passed over at `st`: it does not match, or it is IDENT followed by `(` (and the
match is not `and`) -/
def Skipped (st : St) (q : Prod) : Prop :=
  matchProd q st.prev st.rest = none ∨
  ∃ rem, matchProd q st.prev st.rest = some rem ∧
    (q.name == "IDENT" && lowerT (consumed st.rest rem) != [97, 110, 100] && rem.head? == some 40) = true

theorem tryProds_skip (T : Tables) (cfg : Cfg) (hfs : cfg.fullsheet = false) (st : St) :
    ∀ (pre post : List Prod), (∀ q ∈ pre, Skipped st q) →
      tryProds T cfg st (pre ++ post) = tryProds T cfg st post := by
  intro pre
  induction pre with
  | nil => intro post _; rfl
  | cons q qs ih =>
    intro post hpre
    have ih' := ih post (fun x hx => hpre x (List.mem_cons_of_mem _ hx))
    simp only [List.cons_append, tryProds, hfs, Bool.false_and]
    rcases hpre q List.mem_cons_self with h | ⟨rem, h, hx⟩
    · rw [h]; exact ih'
    · rw [h]
      simp only [hx, if_true]
      exact ih'

def earlierCannotStart (T : Tables) (n : String) (c : Nat) : Bool :=
  go T.prods
where
  go : List Prod → Bool
    | [] => false
    | p :: ps => if p.name == n then true else (!canStart p.re c) && go ps

theorem earlierCannotStart_split (ps : List Prod) (n : String) (c : Nat)
    (h : earlierCannotStart.go n c ps = true) :
    ∃ pre p post, ps = pre ++ p :: post ∧ findProd ps n = some p ∧ (p.name == n) = true ∧
      ∀ q ∈ pre, canStart q.re c = false := by
  induction ps with
  | nil => simp [earlierCannotStart.go] at h
  | cons p ps ih =>
    simp only [earlierCannotStart.go] at h
    split at h
    · rename_i hn
      exact ⟨[], p, ps, rfl, List.find?_cons_of_pos hn, hn, by simp⟩
    · rename_i hn
      simp only [Bool.and_eq_true, Bool.not_eq_true'] at h
      obtain ⟨pre, p', post, hps, hfind, hn', hpre⟩ := ih h.2
      have hf : findProd (p :: ps) n = findProd ps n := List.find?_cons_of_neg hn
      exact ⟨p :: pre, p', post, by simp [hps], hf.trans hfind, hn', List.forall_mem_cons.mpr ⟨h.1, hpre⟩⟩

theorem tryProds_first_char (T : Tables) (cfg : Cfg) (hfs : cfg.fullsheet = false) (st : St) (c : Nat)
    (s : Text) (hr : st.rest = c :: s) :
    ∀ (ps : List Prod) (r : Res), tryProds T cfg st ps = some r →
      ∃ p ∈ ps, canStart p.re c = true ∧ ∃ rem, r = finish T cfg st p.name (consumed (c :: s) rem) rem := by
  intro ps r h
  rcases tryProds_cases T cfg st ps r h with ⟨hf, _⟩ | ⟨p, hp, rem, hm, rfl⟩
  · rw [hfs] at hf; cases hf
  · refine ⟨p, hp, ?_, rem, by rw [hr]⟩
    cases hcs : canStart p.re c with
    | true => rfl
    | false => rw [hr, matchProd_none_of_canStart p st.prev c s hcs] at hm; cases hm

end CssVerif
