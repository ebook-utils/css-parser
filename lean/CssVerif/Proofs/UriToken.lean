/-
The text written by `helper.uri` is one URI token.

The expected shape of the URI production (`uriRe`: `{U}{R}{L}\({w}({string}|{urlchar}*){w}\)`, the letter
macros allowing escapes) is defined here; that the regenerated table has this shape is an obligation
discharged by `rfl`/`decide` in Props/C12.lean (`gen_uri_layout`).  The lemmas give the *first* success
(what `re.match` returns) of the production on `url(` body `)` for the two forms the writer uses: a bare
body of characters that do not force quoting, and a quoted body in which every `"` is written `\"`.
-/
import CssVerif.Proofs.ClassifyMore
import CssVerif.Proofs.Urls
namespace CssVerif
open Re Urls

theorem letter_head (a : Re) (U u x : Nat) (ha : letterOK a U u = true) (hcov : covers a x = true)
    (hx : x ≠ 92) (s : Text) : (ms a (x :: s)).head? = some s := by
  have hne := covers_ms a x hcov s
  cases h : ms a (x :: s) with
  | nil => exact absurd h hne
  | cons t ts =>
    have := (letterOK_spec a U u ha x s hx t (by rw [h]; exact List.mem_cons_self)).1
    rw [this]; rfl

def rparR : Re := .cls false [(41, 41)]

theorem test_rpar : IsTest rparR (fun c => c == 41) := isTest_char 41

/-- `{w}\)` -/
def closeRe : Re := .seq (.star wsR) rparR

/-- `({string}|{urlchar}*){w}\)`; `B` is what may follow the backslash of an escape -/
def uriTail (rsU : List (Nat × Nat)) (A B : Re) : Re :=
  .seq (.alt (stringRe A B) (.star (nmRe rsU B))) closeRe

/-- `{U}{R}{L}\({w}({string}|{urlchar}*){w}\)` -/
def uriRe (a b c : Re) (rsU : List (Nat × Nat)) (A B : Re) : Re :=
  .seq a (.seq b (.seq c (.seq lparR (.seq (.star wsR) (uriTail rsU A B)))))

theorem close_cons (c : Nat) (post : Text) (hws : isWsC c = false) : ms closeRe (c :: post) = ms rparR (c :: post) :=
  ms_seq_single _ _ _ _ (test_ws.star_stop (c :: post) (head_cons hws))

theorem close_head (rest : Text) : ms closeRe (41 :: rest) = [rest] := by
  rw [close_cons 41 rest rfl]
  exact test_rpar.pos (by rfl) rest

/-- the class of `{urlchar}` lies in ASCII, contains every ASCII character that does not force quotes
(other than the backslash), and does not contain `)`: decidable on a concrete class -/
def urlClsOK (rsU : List (Nat × Nat)) : Bool :=
  rsU.all (fun lh => lh.2 < 128) &&
    (List.range 128).all (fun c => forbidden true c || c == 92 || inRanges c rsU) && !inRanges 41 rsU

def isUrlChar (rsU : List (Nat × Nat)) (c : Nat) : Bool := clsMatch false rsU c || decide (128 ≤ c)

theorem forbidden_ne {c : Nat} (h : forbidden true c = false) {a : Nat} (ha : forbidden true a = true) : c ≠ a := by
  rintro rfl
  rw [ha] at h
  cases h

theorem forbidden_not_ws {c : Nat} (h : forbidden true c = false) : isWsC c = false := by
  have := isCssWs_of_bare c h
  simp only [isCssWs, Bool.or_eq_false_iff, beq_eq_false_iff_ne] at this
  simp [isWsC, this]

theorem urlchar_of_bare (rsU : List (Nat × Nat)) (hok : urlClsOK rsU = true) {c : Nat}
    (hf : forbidden true c = false) (hb : c ≠ 92) : isUrlChar rsU c = true := by
  simp only [urlClsOK, Bool.and_eq_true] at hok
  by_cases hlt : c < 128
  · have := List.all_eq_true.mp hok.1.2 c (List.mem_range.mpr hlt)
    simp only [hf, Bool.false_or, Bool.or_eq_true, beq_iff_eq] at this
    rcases this with h | h
    · exact absurd h hb
    · simp [isUrlChar, clsMatch, h]
  · simp only [isUrlChar, Bool.or_eq_true, decide_eq_true_eq]
    right; omega

theorem head_append_cons (u : Text) (x : Nat) (rest : Text) :
    ∀ d ∈ (u ++ x :: rest).head?, d = x ∨ d ∈ u := by
  intro d hd
  cases u with
  | nil => simp at hd; exact Or.inl hd.symm
  | cons c cs => simp at hd; subst hd; exact Or.inr List.mem_cons_self

theorem string_nil (A B : Re) (t : Text) (ht : ∀ d ∈ t.head?, d ≠ 34 ∧ d ≠ 39) : ms (stringRe A B) t = [] := by
  unfold stringRe
  rw [ms_alt, test_dq.seq_stop _ t (fun d hd => by simpa using (ht d hd).1),
    test_sq.seq_stop _ t (fun d hd => by simpa using (ht d hd).2)]
  rfl

theorem ms_uriTail_bare (rsU : List (Nat × Nat)) (A B : Re) (hok : urlClsOK rsU = true) (u rest : Text)
    (hu : ∀ c ∈ u, forbidden true c = false ∧ c ≠ 92) : ms (uriTail rsU A B) (u ++ 41 :: rest) = [rest] := by
  have h41 : isUrlChar rsU 41 = false := by
    simp only [urlClsOK, Bool.and_eq_true, Bool.not_eq_true'] at hok
    simp [isUrlChar, clsMatch, hok.2]
  have htest : IsTestExceptBs (nmRe rsU B) (isUrlChar rsU) := by
    simp only [urlClsOK, Bool.and_eq_true] at hok
    exact test_nm rsU B _ (fun _ => rfl) hok.1.1
  unfold uriTail
  rw [ms_seq, ms_alt, string_nil A B _ (fun d hd => by
      rcases head_append_cons u 41 rest d hd with rfl | h
      · decide
      · exact ⟨forbidden_ne (hu d h).1 rfl, forbidden_ne (hu d h).1 rfl⟩),
    List.nil_append,
    htest.star_run u (41 :: rest)
      (fun c hc => ⟨urlchar_of_bare rsU hok (hu c hc).1 (hu c hc).2, (hu c hc).2⟩)
      (head_cons ⟨h41, by decide⟩),
    backoffs_flatMap]
  · exact close_head rest
  · intro c hc post
    rw [close_cons c post (forbidden_not_ws (hu c hc).1)]
    exact test_rpar.neg (by simpa using forbidden_ne (hu c hc).1 (a := 41) rfl) post

/-- the URL strings of the property: no backslash, no newline, form feed or carriage return -/
def UrlOK (u : Url) : Prop := ∀ c ∈ u, c ≠ 92 ∧ c ≠ 10 ∧ c ≠ 12 ∧ c ≠ 13

instance (u : Url) : Decidable (UrlOK u) := by unfold UrlOK; infer_instance

theorem UrlOK.safe {u : Url} (h : UrlOK u) : Safe u := fun c hc => (h c hc).1

/-- `\"` is consumed whole by the string-character expression: the escape `\` *non-hex* takes it, the
line continuation `\` *newline* and the `\` *hex…* escape do not -/
theorem ms_strChar_esc (rs : List (Nat × Nat)) (A B1 : Re) (rsB : List (Nat × Nat))
    (hrs : clsMatch true rs 92 = false) (hA : canStart A 34 = false) (hB1 : canStart B1 34 = false)
    (hB : clsMatch true rsB 34 = true) (s : Text) :
    ms (strCharRe rs A (.alt B1 (.cls true rsB))) (92 :: 34 :: s) = [s] := by
  have hbs : ms bsR (92 :: 34 :: s) = [34 :: s] := test_bs.pos (by rfl) _
  unfold strCharRe
  rw [ms_alt, ms_alt, ms_seq, ms_seq, hbs]
  simp only [List.flatMap_cons, List.flatMap_nil, List.append_nil]
  rw [canStart_false A 34 s hA, ms_alt, canStart_false B1 34 s hB1]
  simp [ms, hrs, hB]

theorem star_strChar_escQ (A B1 : Re) (rsB : List (Nat × Nat))
    (hA : canStart A 34 = false) (hB1 : canStart B1 34 = false) (hB : clsMatch true rsB 34 = true)
    (rest : Text) : ∀ u : Text, UrlOK u →
      (ms (.star (strCharRe dqEx A (.alt B1 (.cls true rsB)))) (escQ u ++ 34 :: rest)).head? =
        some (34 :: rest) := by
  intro u
  induction u with
  | nil =>
    intro _
    have : ms (strCharRe dqEx A (.alt B1 (.cls true rsB))) (34 :: rest) = [] :=
      (test_strChar dqEx A _).stop _ (head_cons ⟨by decide, by decide⟩)
    simp only [escQ, List.flatMap_nil, List.nil_append]
    rw [star_stop_single _ rfl _ this]; rfl
  | cons c u ih =>
    intro hu
    have ih' := ih (fun x hx => hu x (List.mem_cons_of_mem _ hx))
    have hc := hu c List.mem_cons_self
    have hcons : escQ (c :: u) = (if c = 34 then [92, 34] else [c]) ++ escQ u := by simp [escQ]
    rw [hcons]
    by_cases h : c = 34
    · subst h
      simp only [if_true, List.cons_append, List.nil_append]
      exact star_head_step _ rfl _ _ _
        (ms_strChar_esc dqEx A B1 rsB (by decide) hA hB1 hB _) ih'
    · simp only [h, if_false, List.cons_append, List.nil_append]
      refine star_head_step _ rfl _ _ _
        ((test_strChar dqEx A _).pos hc.1 ?_ _) ih'
      rw [show clsMatch true dqEx c = isStrChar 34 c from strEx_spec 34 c]
      simp [isStrChar, hc.1, hc.2.1, hc.2.2.1, hc.2.2.2, h]

theorem ms_uriTail_quoted (rsU : List (Nat × Nat)) (A B1 : Re) (rsB : List (Nat × Nat))
    (hA : canStart A 34 = false) (hB1 : canStart B1 34 = false) (hB : clsMatch true rsB 34 = true)
    (u rest : Text) (hu : UrlOK u) :
    (ms (uriTail rsU A (.alt B1 (.cls true rsB))) (34 :: (escQ u ++ 34 :: 41 :: rest))).head? = some rest := by
  unfold uriTail
  rw [ms_seq]
  apply head?_flatMap_of_head (a := 41 :: rest) (b := rest) _ (by rw [close_head]; rfl)
  rw [ms_alt, List.head?_append]
  have : (ms (stringRe A (.alt B1 (.cls true rsB))) (34 :: (escQ u ++ 34 :: 41 :: rest))).head? =
      some (41 :: rest) := by
    unfold stringRe
    rw [ms_alt, List.head?_append, test_dq.seq_pos (by rfl), ms_seq]
    rw [head?_flatMap_of_head (a := 34 :: 41 :: rest) (b := 41 :: rest)
      (star_strChar_escQ A B1 rsB hA hB1 hB (41 :: rest) u hu) (by rw [test_dq.pos (by rfl)]; rfl)]
    rfl
  rw [this]; rfl

structure UrlLetters (a b c : Re) : Prop where
  la : letterOK a 85 117 = true
  lb : letterOK b 82 114 = true
  lc : letterOK c 76 108 = true
  ca : covers a 117 = true
  cb : covers b 114 = true
  cc : covers c 108 = true

theorem ms_uri_head (a b c : Re) (rsU : List (Nat × Nat)) (A B : Re) (hl : UrlLetters a b c)
    (body rest : Text) (hws : ∀ d ∈ body.head?, isWsC d = false)
    (htail : (ms (uriTail rsU A B) body).head? = some rest) :
    (ms (uriRe a b c rsU A B) (117 :: 114 :: 108 :: 40 :: body)).head? = some rest := by
  unfold uriRe
  rw [ms_seq]
  apply head?_flatMap_of_head (letter_head a 85 117 117 hl.la hl.ca (by decide) _)
  rw [ms_seq]
  apply head?_flatMap_of_head (letter_head b 82 114 114 hl.lb hl.cb (by decide) _)
  rw [ms_seq]
  apply head?_flatMap_of_head (letter_head c 76 108 108 hl.lc hl.cc (by decide) _)
  rw [test_lpar.seq_pos (by rfl), ms_seq_single _ _ _ _ (test_ws.star_stop body hws)]
  exact htail

/-- the two forms `helper.uri` writes -/
theorem cssUri_forms (u : Url) (hs : Safe u) :
    cssUri true u = 117 :: 114 :: 108 :: 40 ::
      (if u.any (forbidden true) = true then 34 :: (escQ u ++ [34, 41]) else u ++ [41]) := by
  simp only [cssUri]
  split
  · rw [cssString_safe u hs]; simp
  · simp

theorem cssUri_head (a b c : Re) (rsU : List (Nat × Nat)) (A B1 : Re) (rsB : List (Nat × Nat))
    (hl : UrlLetters a b c) (hok : urlClsOK rsU = true)
    (hA : canStart A 34 = false) (hB1 : canStart B1 34 = false) (hB : clsMatch true rsB 34 = true)
    (u rest : Text) (hu : UrlOK u) :
    (ms (uriRe a b c rsU A (.alt B1 (.cls true rsB))) (cssUri true u ++ rest)).head? = some rest := by
  rw [cssUri_forms u hu.safe]
  by_cases hq : u.any (forbidden true) = true
  · simp only [hq, if_true, List.cons_append, List.append_assoc, List.nil_append]
    exact ms_uri_head a b c rsU A _ hl _ rest (head_cons (by decide))
      (ms_uriTail_quoted rsU A B1 rsB hA hB1 hB u rest hu)
  · simp only [hq, Bool.false_eq_true, if_false, List.cons_append, List.append_assoc, List.nil_append]
    have hnf : ∀ c ∈ u, forbidden true c = false := by simpa using hq
    refine ms_uri_head a b c rsU A _ hl _ rest ?_ ?_
    · intro d hd
      rcases head_append_cons u 41 rest d hd with rfl | h
      · decide
      · exact forbidden_not_ws (hnf d h)
    · rw [ms_uriTail_bare rsU A _ hok u rest (fun c hc => ⟨hnf c hc, (hu c hc).1⟩)]; rfl

def EscQuote : Text → Prop
  | [] => True
  | c :: r => (c = 92 → r.head? = some 34) ∧ EscQuote r

theorem reSub_escQuote (X : Re) (hX : canStart X 34 = false) (f : Text → Text) :
    ∀ (n : Nat) (s : Text), EscQuote s → reSub (.seq (.cls false [(92, 92)]) X) f n s = s := by
  refine reSub_of_none _ f EscQuote (fun c s hs => ⟨?_, hs.2⟩)
  by_cases hc : c = 92
  · subst hc
    have := hs.1 rfl
    cases s with
    | nil => cases this
    | cons d r =>
      simp only [List.head?_cons, Option.some.injEq] at this
      subst this
      apply exec_none_of_ms_nil
      rw [(isTest_char 92).seq_pos (by rfl)]
      exact canStart_false X 34 r hX
  · exact exec_backslash_none _ rfl c s hc

theorem EscQuote_of_nobs {t : Text} (h : ∀ c ∈ t, c ≠ 92) : EscQuote t := by
  induction t with
  | nil => trivial
  | cons c r ih =>
    exact ⟨fun hc => absurd hc (h c List.mem_cons_self), ih (fun x hx => h x (List.mem_cons_of_mem _ hx))⟩

theorem EscQuote_escQ (u t : Text) (hu : Safe u) (ht : EscQuote t) : EscQuote (escQ u ++ t) := by
  induction u with
  | nil => simpa [escQ] using ht
  | cons c u ih =>
    have ih' := ih (fun x hx => hu x (List.mem_cons_of_mem _ hx))
    have hc : c ≠ 92 := hu c List.mem_cons_self
    have hcons : escQ (c :: u) = (if c = 34 then [92, 34] else [c]) ++ escQ u := by simp [escQ]
    rw [hcons]
    by_cases h : c = 34
    · subst h
      simp only [if_true, List.cons_append, List.nil_append]
      exact ⟨fun _ => rfl, fun h => absurd h (by decide), ih'⟩
    · simp only [h, if_false, List.cons_append, List.nil_append]
      exact ⟨fun h' => absurd h' hc, ih'⟩

theorem EscQuote_cssUri (u : Url) (hs : Safe u) : EscQuote (cssUri true u) := by
  rw [cssUri_forms u hs]
  refine ⟨fun h => absurd h (by decide), fun h => absurd h (by decide), fun h => absurd h (by decide),
    fun h => absurd h (by decide), ?_⟩
  split
  · refine ⟨fun h => absurd h (by decide), ?_⟩
    exact EscQuote_escQ u _ hs (EscQuote_of_nobs (by decide))
  · exact EscQuote_of_nobs (List.forall_mem_append.mpr ⟨hs, by decide⟩)

/-- what `finish` does outside full-sheet mode for a URI match in which every backslash is followed by a
double quote: the value is the match (`\"` is not a `\hex` escape) -/
theorem finish_uri (T : Tables) (X : Re) (hsub : T.unicodesub = .seq (.cls false [(92, 92)]) X)
    (hX : canStart X 34 = false) (hesc : T.escTypes.contains "URI" = true)
    (cfg : Cfg) (hfs : cfg.fullsheet = false) (hdc : cfg.doComments = true) (st : St) (found rem : Text)
    (hq : EscQuote found) :
    finish T cfg st "URI" found rem =
      { emit := some ⟨"URI", found, st.line, st.col⟩, raw := found, st := advance st found } := by
  have hv : unicodeSub T found = found := by
    unfold unicodeSub
    rw [hsub]
    exact reSub_escQuote X hX _ _ _ hq
  have hesc' : "URI" ∈ T.escTypes := by simpa using hesc
  simp [finish, finishName, finishVal, hfs, hdc, hesc', hv]

end CssVerif
