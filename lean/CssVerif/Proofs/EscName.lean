/-
Names with hex escapes: how the tokenizer's `{escape}` expression (the `{unicode}` macro of cssproductions, as it
occurs inside `{nmstart}` / `{nmchar}`; `Proofs/UnicodeSub.lean` reads the other one, `Tokenizer.unicodesub`, which
lists the ranges in another order and has no look-ahead) reads `\` + 1–6 hex digits + optional
white space (exactly one way, by construction of the expression), how `{nmchar}*` runs over a name some
of whose characters are written that way, and what the `\hex` rewrite makes of such a name.
-/
import CssVerif.Proofs.UnicodeSub
namespace CssVerif
open Re

def hexT : Re := .cls false [(48, 57), (65, 70), (97, 102)]
def nahHex : Re := .nahead false [(48, 57), (65, 70), (97, 102)]
def wsT : Re := .cls false [(32, 32), (9, 9), (13, 13), (10, 10), (12, 12)]
def nahWs : Re := .nahead false [(32, 32), (9, 9), (13, 13), (10, 10), (12, 12)]

theorem inRanges_hexT (c : Nat) : inRanges c [(48, 57), (65, 70), (97, 102)] = isHex c := by
  simp only [inRanges, isHex, Bool.or_false, Bool.or_assoc]

theorem inRanges_wsT (c : Nat) : inRanges c [(32, 32), (9, 9), (13, 13), (10, 10), (12, 12)] = isWsC c := by
  simp only [inRanges_single, isWsC]
  simp only [inRanges, Bool.or_false]
  ac_rfl

theorem test_hexT : IsTest hexT isHex := (isTest_cls _ _).congr inRanges_hexT

theorem test_wsT : IsTest wsT isWsC := (isTest_cls _ _).congr inRanges_wsT

theorem nahHex_cons (c : Nat) (s : Text) : ms nahHex (c :: s) = if isHex c = true then [] else [c :: s] := by
  rw [← inRanges_hexT]; rfl

theorem nahWs_cons (c : Nat) (s : Text) : ms nahWs (c :: s) = if isWsC c = true then [] else [c :: s] := by
  rw [← inRanges_wsT]; rfl

/-- `(?:h(?:h(…|(?!h))|(?!h))|(?!h))`: up to `k + 1` more hex digits, all that are there -/
def ht : Nat → Re
  | 0 => .alt hexT nahHex
  | k + 1 => .alt (.seq hexT (ht k)) nahHex

def noHexHead (t : Text) : Bool := match t with | d :: _ => !isHex d | [] => true
def noWsHead (t : Text) : Bool := match t with | d :: _ => !isWsC d | [] => true

theorem nahHex_stop (t : Text) (h : noHexHead t = true) : ms nahHex t = [t] := by
  cases t with
  | nil => rfl
  | cons d r =>
    have : isHex d = false := by simpa [noHexHead] using h
    rw [nahHex_cons, this]; rfl

theorem hexT_stop (t : Text) (h : noHexHead t = true) : ms hexT t = [] := by
  apply test_hexT.stop
  intro d hd
  cases t with
  | nil => cases hd
  | cons x r => simp at hd; subst hd; simpa [noHexHead] using h

/-- the digits of an escape are read in exactly one way -/
theorem ms_ht : ∀ (k : Nat) (ds t : Text), (∀ x ∈ ds, isHex x = true) → ds.length ≤ k + 1 →
    (ds.length < k + 1 → noHexHead t = true) → ms (ht k) (ds ++ t) = [t] := by
  intro k
  induction k with
  | zero =>
    intro ds t hds hlen hstop
    match ds, hds, hlen, hstop with
    | [], _, _, hstop =>
      have h := hstop (by simp)
      simp [ht, ms_alt, hexT_stop t h, nahHex_stop t h]
    | [d], hds, _, _ =>
      have hd := hds d (by simp)
      simp [ht, ms_alt, test_hexT.pos hd, nahHex_cons, hd]
    | _ :: _ :: _, _, hlen, _ => simp at hlen
  | succ k ih =>
    intro ds t hds hlen hstop
    cases ds with
    | nil =>
      have h := hstop (by simp)
      simp [ht, ms_alt, ms_seq_nil_left _ _ _ (hexT_stop t h), nahHex_stop t h]
    | cons d ds' =>
      have hd := hds d List.mem_cons_self
      have := ih ds' t (fun x hx => hds x (List.mem_cons_of_mem _ hx)) (by simpa using hlen)
        (fun h => hstop (by simp only [List.length_cons]; omega))
      show ms (.alt (.seq hexT (ht k)) nahHex) (d :: (ds' ++ t)) = [t]
      rw [ms_alt, test_hexT.seq_pos hd, this, nahHex_cons, hd]
      rfl

/-- `\r\n | [ \t\r\n\f] | (?![ \t\r\n\f])` -/
def termT : Re := .alt (.seq (.cls false [(13, 13)]) (.cls false [(10, 10)])) (.alt wsT nahWs)

/-- the optional terminator, as written: nothing (then no white space follows), or one white-space
character (a `\r` not followed by `\n`) -/
def termOK (term : Option Nat) (t : Text) : Bool :=
  match term with
  | none => noWsHead t
  | some w => isWsC w && !(w == 13 && t.head? == some 10)

theorem ms_termT (term : Option Nat) (t : Text) (h : termOK term t = true) :
    ms termT (term.toList ++ t) = [t] := by
  unfold termT
  rw [ms_alt, ms_alt, ms_lit_seq]
  cases term with
  | none =>
    simp only [Option.toList_none, List.nil_append]
    cases t with
    | nil => simp [test_wsT.nil, nahWs, ms]
    | cons d r =>
      have hd : isWsC d = false := by simpa [termOK, noWsHead] using h
      have h13 : d ≠ 13 := by intro e; subst e; cases hd
      simp [h13, test_wsT.neg hd, nahWs_cons, hd]
  | some w =>
    simp only [termOK, Bool.and_eq_true, Bool.not_eq_true', Bool.and_eq_false_iff, beq_eq_false_iff_ne] at h
    obtain ⟨hw, hcr⟩ := h
    simp only [Option.toList_some, List.singleton_append]
    have hcrlf : (if w = 13 then ms (.cls false [(10, 10)]) t else []) = [] := by
      by_cases h13 : w = 13
      · simp only [h13, if_true]
        rw [ms_lit]
        cases t with
        | nil => rfl
        | cons x r =>
          have : x ≠ 10 := by
            rcases hcr with h | h
            · exact absurd h13 (by simpa using h)
            · simpa using h
          simp [this]
      · simp [h13]
    rw [hcrlf, test_wsT.pos hw, nahWs_cons, hw]
    rfl

/-- `{escape}` without the backslash: `{unicode}` or one character that is neither a newline nor a hex
digit -/
def escX : Re :=
  .alt (.seq hexT (.seq (ht 4) termT)) (.cls true [(10, 10), (13, 13), (12, 12), (48, 57), (97, 102), (65, 70)])

/-- a hex escape as written: 1–6 hex digits, all that are there (fewer than six only if no hex digit
follows), then the optional terminator -/
def escOK (ds : Text) (term : Option Nat) (t : Text) : Bool :=
  !ds.isEmpty && ds.length ≤ 6 && ds.all isHex && (ds.length == 6 || noHexHead (term.toList ++ t)) &&
    termOK term t

theorem escOK_spec {ds : Text} {term : Option Nat} {t : Text} (h : escOK ds term t = true) :
    ∃ d ds', ds = d :: ds' ∧ isHex d = true ∧ (∀ x ∈ ds', isHex x = true) ∧ ds'.length ≤ 5 ∧
      (ds'.length < 5 → noHexHead (term.toList ++ t) = true) ∧ termOK term t = true := by
  simp only [escOK, Bool.and_eq_true, Bool.not_eq_true', List.all_eq_true, Bool.or_eq_true, beq_iff_eq,
    decide_eq_true_eq] at h
  obtain ⟨⟨⟨⟨hne, hlen⟩, hall⟩, hstop⟩, hterm⟩ := h
  cases ds with
  | nil => simp at hne
  | cons d ds' =>
    refine ⟨d, ds', rfl, hall d List.mem_cons_self, fun x hx => hall x (List.mem_cons_of_mem _ hx),
      by simpa using hlen, ?_, hterm⟩
    intro hlt
    rcases hstop with h | h
    · simp only [List.length_cons] at h; omega
    · exact h

theorem ms_escX (ds : Text) (term : Option Nat) (t : Text) (h : escOK ds term t = true) :
    ms escX (ds ++ (term.toList ++ t)) = [t] := by
  obtain ⟨d, ds', rfl, hd, hds', hlen, hstop, hterm⟩ := escOK_spec h
  unfold escX
  have hlit : ms (.cls true [(10, 10), (13, 13), (12, 12), (48, 57), (97, 102), (65, 70)])
      (d :: (ds' ++ (term.toList ++ t))) = [] := by
    have : inRanges d [(10, 10), (13, 13), (12, 12), (48, 57), (97, 102), (65, 70)] = true := by
      simp only [inRanges_single, inRanges_hexC, hd, Bool.or_true]
    simp [ms, clsMatch, this]
  show ms _ (d :: (ds' ++ (term.toList ++ t))) = [t]
  rw [ms_alt, hlit, test_hexT.seq_pos hd,
    ms_seq_single _ _ _ _ (ms_ht 4 ds' _ hds' (by omega) (fun h => hstop (by omega))), ms_termT term t hterm]
  rfl

inductive NmUnit where
  | plain (c : Nat)
  | esc (ds : Text) (term : Option Nat)
  deriving Repr, DecidableEq

def NmUnit.text : NmUnit → Text
  | .plain c => [c]
  | .esc ds term => 92 :: ds ++ term.toList

def unitsText (us : List NmUnit) : Text := us.flatMap NmUnit.text

/-- what the `\hex` rewrite makes of it: the character with that code point (an escape beyond U+10FFFF is
left as written) -/
def NmUnit.val : NmUnit → Text
  | .plain c => [c]
  | .esc ds term => if hexFold 0 ds ≤ 0x10FFFF then [hexFold 0 ds] else 92 :: ds ++ term.toList

def unitsVal (us : List NmUnit) : Text := us.flatMap NmUnit.val

/-- the unit is a name character (resp. a name-start character) as written, `t` being the text after it -/
def NmUnit.ok (start : Bool) (u : NmUnit) (t : Text) : Bool :=
  match u with
  | .plain c => if start then isNmStart c else isNmChar c
  | .esc ds term => escOK ds term t

def unitsOK : List NmUnit → Text → Bool
  | [], _ => true
  | u :: us, rest => u.ok false (unitsText us ++ rest) && unitsOK us rest

theorem unitsText_cons (u : NmUnit) (us : List NmUnit) : unitsText (u :: us) = u.text ++ unitsText us := rfl

theorem ms_unit (start : Bool) (u : NmUnit) (t : Text) (h : u.ok start t = true) :
    ms (if start then nmstartRe escX else nmcharRe escX) (u.text ++ t) = [t] := by
  cases u with
  | plain c =>
    cases start with
    | true => exact (test_nmstart escX).pos (nmstart_facts h).1 h t
    | false => exact (test_nmchar escX).pos (nmchar_facts h).1 h t
  | esc ds term =>
    have hesc := ms_escX ds term t h
    have e : (NmUnit.esc ds term).text ++ t = 92 :: (ds ++ (term.toList ++ t)) := by simp [NmUnit.text]
    rw [e]
    have h92 : ∀ rs, ms (nmRe rs escX) (92 :: (ds ++ (term.toList ++ t))) =
        (if clsMatch false rs 92 then [ds ++ (term.toList ++ t)] else []) ++ [t] := by
      intro rs
      unfold nmRe
      rw [ms_alt, ms_alt, test_bs.seq_pos (by rfl), hesc]
      simp [ms, clsMatch, inRanges]
    cases start with
    | true => simp only [if_true, nmstartRe]; rw [h92]; rfl
    | false => simp only [Bool.false_eq_true, if_false, nmcharRe]; rw [h92]; rfl

theorem star_units_head : ∀ (us : List NmUnit) (rest : Text), unitsOK us rest = true →
    NameStop rest → (ms (.star (nmcharRe escX)) (unitsText us ++ rest)).head? = some rest := by
  intro us
  induction us with
  | nil =>
    intro rest _ hrest
    rw [ms_star_unroll _ rfl]
    simp [unitsText, (test_nmchar escX).stop rest hrest]
  | cons u us ih =>
    intro rest h hrest
    simp only [unitsOK, Bool.and_eq_true] at h
    have hu := ms_unit false u _ h.1
    simp only [Bool.false_eq_true, if_false] at hu
    rw [unitsText_cons, List.append_assoc, ms_star_unroll _ rfl, hu]
    simp only [List.flatMap_cons, List.flatMap_nil, List.append_nil]
    rw [List.head?_append, ih rest h.2 hrest]
    rfl

/-- a name as written: optional `-`, a first unit that is a name-start character, more units -/
def nameText (m : Bool) (u : NmUnit) (us : List NmUnit) : Text :=
  (if m then [45] else []) ++ (u.text ++ unitsText us)

def nameOKE (u : NmUnit) (us : List NmUnit) (rest : Text) : Bool :=
  u.ok true (unitsText us ++ rest) && unitsOK us rest

theorem ident_units_head (m : Bool) (u : NmUnit) (us : List NmUnit) (rest : Text)
    (h : nameOKE u us rest = true) (hrest : NameStop rest) :
    (ms (identRe escX) (nameText m u us ++ rest)).head? = some rest := by
  simp only [nameOKE, Bool.and_eq_true] at h
  have hu := ms_unit true u _ h.1
  simp only [if_true] at hu
  have hname : (ms (nameRe escX) (u.text ++ (unitsText us ++ rest))).head? = some rest := by
    unfold nameRe
    rw [ms_seq_single _ _ _ _ hu]
    exact star_units_head us rest h.2 hrest
  have hne45 : ∀ d ∈ (u.text ++ (unitsText us ++ rest)).head?, (d == 45) = false := by
    cases u with
    | plain c => exact head_cons (by simpa using (nmstart_facts h.1).2.1)
    | esc ds term => exact head_cons (by decide)
  unfold identRe nameText
  cases m with
  | false =>
    simp only [Bool.false_eq_true, if_false, List.nil_append, List.append_assoc]
    rw [ms_seq_single _ _ _ _ (test_minus.opt_stop _ hne45)]
    exact hname
  | true =>
    simp only [if_true, List.cons_append, List.nil_append, List.append_assoc]
    rw [ms_seq, test_minus.opt_pos (by rfl)]
    exact head?_flatMap_of_head rfl hname

theorem unescape_fuel (a b : Nat) (s : Text) (ha : s.length ≤ a) (hb : s.length ≤ b) :
    Escape.unescape a s = Escape.unescape b s := by
  rw [← reSub_unescape s.length a s (Nat.le_refl _) ha, ← reSub_unescape s.length b s (Nat.le_refl _) hb]

theorem takeHexPre_digits : ∀ (k : Nat) (ds t : Text), (∀ x ∈ ds, isHex x = true) → ds.length ≤ k →
    (ds.length < k → noHexHead t = true) → takeHexPre k (ds ++ t) = ds ∧ dropHex k (ds ++ t) = t := by
  intro k
  induction k with
  | zero =>
    intro ds t _ hlen _
    have : ds = [] := List.eq_nil_of_length_eq_zero (by omega)
    subst this
    exact ⟨rfl, rfl⟩
  | succ k ih =>
    intro ds t hds hlen hstop
    cases ds with
    | nil =>
      have h := hstop (by simp)
      cases t with
      | nil => exact ⟨rfl, rfl⟩
      | cons d r =>
        have hd : isHex d = false := by simpa [noHexHead] using h
        simp [takeHexPre, dropHex, hd]
    | cons d ds' =>
      have hd := hds d List.mem_cons_self
      obtain ⟨h1, h2⟩ := ih ds' t (fun x hx => hds x (List.mem_cons_of_mem _ hx)) (by simpa using hlen)
        (fun h => hstop (by simp only [List.length_cons]; omega))
      simp [takeHexPre, dropHex, hd, h1, h2]

theorem afterWs_term (term : Option Nat) (t : Text) (h : termOK term t = true) :
    afterWs (term.toList ++ t) = t ∧ wsPart (term.toList ++ t) = term.toList := by
  cases term with
  | none =>
    simp only [Option.toList_none, List.nil_append]
    match t, h with
    | [], _ => exact ⟨rfl, rfl⟩
    | [w], h =>
      have hw : isWsC w = false := by simpa [termOK, noWsHead] using h
      simp [afterWs, wsPart, hw]
    | w :: x :: r, h =>
      have hw : isWsC w = false := by simpa [termOK, noWsHead] using h
      have h13 : w ≠ 13 := by intro e; subst e; cases hw
      simp [afterWs, wsPart, hw, h13]
  | some w =>
    simp only [termOK, Bool.and_eq_true, Bool.not_eq_true', Bool.and_eq_false_iff, beq_eq_false_iff_ne] at h
    obtain ⟨hw, hcr⟩ := h
    simp only [Option.toList_some, List.singleton_append]
    cases t with
    | nil => simp [afterWs, wsPart, hw]
    | cons x r =>
      have : ¬ (w = 13 ∧ x = 10) := by
        rintro ⟨rfl, rfl⟩
        rcases hcr with h | h
        · exact h rfl
        · simp at h
      simp [afterWs, wsPart, hw, this]

theorem cssUnescape_esc (ds : Text) (term : Option Nat) (t : Text) (h : escOK ds term t = true) :
    Escape.cssUnescape ((NmUnit.esc ds term).text ++ t) = (NmUnit.esc ds term).val ++ Escape.cssUnescape t := by
  obtain ⟨d, ds', rfl, hd, hds', hlen, hstop, hterm⟩ := escOK_spec h
  have hall : ∀ x ∈ d :: ds', isHex x = true := List.forall_mem_cons.mpr ⟨hd, hds'⟩
  obtain ⟨h1, h2⟩ := takeHexPre_digits 6 (d :: ds') (term.toList ++ t) hall (by simp only [List.length_cons]; omega)
    (fun h => hstop (by simp only [List.length_cons] at h; omega))
  obtain ⟨h3, h4⟩ := afterWs_term term t hterm
  have e : (NmUnit.esc (d :: ds') term).text ++ t = 92 :: ((d :: ds') ++ (term.toList ++ t)) := by
    simp [NmUnit.text]
  rw [e]
  simp only [Escape.cssUnescape, List.length_cons]
  rw [unescape_bs, h1, h2, h3, h4]
  simp only [reduceCtorEq, if_false, NmUnit.val]
  congr 1
  apply unescape_fuel
  · simp only [List.length_append, List.length_cons]; omega
  · omega

theorem cssUnescape_units : ∀ (us : List NmUnit) (rest : Text), unitsOK us rest = true →
    Escape.cssUnescape (unitsText us ++ rest) = unitsVal us ++ Escape.cssUnescape rest := by
  intro us
  induction us with
  | nil => intro rest _; rfl
  | cons u us ih =>
    intro rest h
    simp only [unitsOK, Bool.and_eq_true] at h
    rw [unitsText_cons, List.append_assoc]
    cases u with
    | plain c =>
      have hc : c ≠ 92 := (nmchar_facts (by simpa [NmUnit.ok] using h.1)).1
      show Escape.cssUnescape (c :: (unitsText us ++ rest)) = _
      rw [cssUnescape_plain c _ hc, ih rest h.2]
      rfl
    | esc ds term =>
      rw [cssUnescape_esc ds term _ h.1, ih rest h.2]
      simp [unitsVal]

theorem escOK_congr (ds : Text) (term : Option Nat) (t t' : Text) (h : t.head? = t'.head?) :
    escOK ds term t = escOK ds term t' := by
  have h1 : noHexHead (term.toList ++ t) = noHexHead (term.toList ++ t') := by
    cases term with
    | some w => rfl
    | none =>
      simp only [Option.toList_none, List.nil_append]
      cases t <;> cases t' <;> simp_all [noHexHead]
  have h2 : termOK term t = termOK term t' := by
    cases term with
    | some w => simp [termOK, h]
    | none => cases t <;> cases t' <;> simp_all [termOK, noWsHead]
  simp only [escOK, h1, h2]

theorem escOK_nil (ds : Text) (term : Option Nat) (t : Text) (h : escOK ds term t = true) :
    escOK ds term [] = true := by
  cases term <;> simp_all [escOK, noHexHead, termOK, noWsHead]

/-- the side conditions of the last escape only matter if something follows the name -/
theorem unit_ok_nil (start : Bool) (u : NmUnit) (us : List NmUnit) (rest : Text)
    (h : u.ok start (unitsText us ++ rest) = true) : u.ok start (unitsText us) = true := by
  cases u with
  | plain c => exact h
  | esc ds term =>
    have h1 : escOK ds term (unitsText us ++ rest) = true := h
    show escOK ds term (unitsText us) = true
    cases hT : unitsText us with
    | nil => rw [hT] at h1; exact escOK_nil ds term _ h1
    | cons x post => rw [hT] at h1; rwa [escOK_congr ds term (x :: post) (x :: post ++ rest) rfl]

theorem unitsOK_nil : ∀ (us : List NmUnit) (rest : Text), unitsOK us rest = true → unitsOK us [] = true := by
  intro us
  induction us with
  | nil => intro _ _; rfl
  | cons u us ih =>
    intro rest h
    simp only [unitsOK, Bool.and_eq_true, List.append_nil] at h ⊢
    exact ⟨unit_ok_nil false u us rest h.1, ih rest h.2⟩

theorem unit_ok_congr (start : Bool) (u : NmUnit) (t t' : Text) (h : t.head? = t'.head?) :
    u.ok start t = u.ok start t' := by
  cases u with
  | plain c => rfl
  | esc ds term => exact escOK_congr ds term t t' h

theorem unitsOK_congr : ∀ (us : List NmUnit) (t t' : Text), t.head? = t'.head? → unitsOK us t = unitsOK us t' := by
  intro us
  induction us with
  | nil => intro _ _ _; rfl
  | cons u us ih =>
    intro t t' h
    simp only [unitsOK]
    rw [ih t t' h, unit_ok_congr false u (unitsText us ++ t) (unitsText us ++ t')
      (by rw [List.head?_append, List.head?_append, h])]

theorem nameOKE_congr (u : NmUnit) (us : List NmUnit) (t t' : Text) (h : t.head? = t'.head?) :
    nameOKE u us t = nameOKE u us t' := by
  simp only [nameOKE]
  rw [unitsOK_congr us t t' h, unit_ok_congr true u (unitsText us ++ t) (unitsText us ++ t')
    (by rw [List.head?_append, List.head?_append, h])]

theorem nameOKE_nil (u : NmUnit) (us : List NmUnit) (rest : Text) (h : nameOKE u us rest = true) :
    nameOKE u us [] = true := by
  simp only [nameOKE, Bool.and_eq_true, List.append_nil] at h ⊢
  exact ⟨unit_ok_nil true u us rest h.1, unitsOK_nil us rest h.2⟩

theorem unit_text_cons (start : Bool) (u : NmUnit) (t : Text) (h : u.ok start t = true) :
    ∃ x r, u.text = x :: r ∧ x ≠ 64 ∧ (r = [] → x ≠ 45 ∨ start = false) ∧ (r = [] → x ≠ 46) := by
  cases u with
  | plain c =>
    have hc : isNmChar c = true := by
      cases start with
      | true => simp only [NmUnit.ok, if_true] at h; simp [isNmChar, h]
      | false => simpa [NmUnit.ok] using h
    refine ⟨c, [], rfl, ?_, ?_, ?_⟩
    · intro e; subst e; revert hc; decide
    · intro _
      cases start with
      | true =>
        left
        simp only [NmUnit.ok, if_true] at h
        exact (nmstart_facts h).2.1
      | false => exact Or.inr rfl
    · intro _ e; subst e; revert hc; decide
  | esc ds term =>
    obtain ⟨d, ds', rfl, -⟩ := escOK_spec h
    exact ⟨92, d :: ds' ++ term.toList, rfl, by decide, by intro h; simp at h, by intro h; simp at h⟩

end CssVerif
