/-
Proofs about Model/SaveStack.lean: the Stack discipline puts the flag and every parser's memory back over any
well-nested history (any depth, any mix of parser objects, re-entrant or not); the Slot discipline puts the flag
back over well-nested histories in which no parser is entered while it is active.  (With re-entry it can fail:
`C06.slot_wrong_always` is a family of histories after which the flag is `pv p`, whatever the caller had set.)
-/
import CssVerif.Model.SaveStack
namespace CssVerif.SaveStack

@[simp] theorem upd_same {α : Type} (f : Nat → α) (p : Nat) (a : α) : upd f p a p = a := if_pos rfl
theorem upd_other {α : Type} {f : Nat → α} {p q : Nat} {a : α} (h : q ≠ p) : upd f p a q = f q := if_neg h
@[simp] theorem upd_upd {α : Type} (f : Nat → α) (p : Nat) (a b : α) : upd (upd f p a) p b = upd f p b := by
  funext q; simp only [upd]; split <;> rfl
@[simp] theorem upd_self {α : Type} (f : Nat → α) (p : Nat) : upd f p (f p) = f := by
  funext q; simp only [upd]; split
  · next h => rw [h]
  · rfl

theorem runStack_append (pv : Nat → Bool) (s : StackState) (h₁ h₂ : List Ev) :
    runStack pv s (h₁ ++ h₂) = runStack pv (runStack pv s h₁) h₂ := by
  induction h₁ generalizing s with
  | nil => rfl
  | cons e h ih => exact ih _

theorem runSlot_append (pv : Nat → Bool) (s : SlotState) (h₁ h₂ : List Ev) :
    runSlot pv s (h₁ ++ h₂) = runSlot pv (runSlot pv s h₁) h₂ := by
  induction h₁ generalizing s with
  | nil => rfl
  | cons e h ih => exact ih _

/-- the heart of the Stack discipline: the exit of a call undoes its entry, flag and memory -/
theorem exit_enter (pv : Nat → Bool) (s : StackState) (p : Nat) :
    stepStack pv (stepStack pv s (.enter p)) (.exit p) = s := by
  cases s with
  | mk flag mem => simp [stepStack]

/-- By induction on the grammar; the start state is arbitrary, so the statement is its own induction hypothesis for
the calls nested in a call and for the calls after it. -/
theorem calls_run (pv : Nat → Bool) {h : List Ev} (hc : Calls h) (s : StackState) : runStack pv s h = s := by
  induction hc generalizing s with
  | nil => rfl
  | call p _ _ ihi ihr =>
    show runStack pv (stepStack pv s (.enter p)) (_ ++ .exit p :: _) = s
    rw [runStack_append, ihi]
    show runStack pv (stepStack pv (stepStack pv s (.enter p)) (.exit p)) _ = s
    rw [exit_enter, ihr]

/-- The histories the checker accepts, with what it does on them: from the open calls `stk`, `h` leaves `stk'`
open.  Proofs about accepted histories go by induction on this; the refusals of `openAfter` are met once, in
`Accepted.of_openAfter`. -/
inductive Accepted (strict : Bool) : List Nat → List Ev → List Nat → Prop
  | nil {stk} : Accepted strict stk [] stk
  | enter {p stk h stk'} : (strict = true → p ∉ stk) → Accepted strict (p :: stk) h stk' →
      Accepted strict stk (.enter p :: h) stk'
  | exit {p stk h stk'} : Accepted strict stk h stk' → Accepted strict (p :: stk) (.exit p :: h) stk'
  | set {v h stk'} : Accepted strict [] h stk' → Accepted strict [] (.set v :: h) stk'

theorem Accepted.of_openAfter {strict : Bool} {h : List Ev} {stk stk' : List Nat}
    (ho : openAfter strict stk h = some stk') : Accepted strict stk h stk' := by
  fun_induction openAfter strict stk h with
  | case1 => exact Option.some.inj ho ▸ .nil
  | case3 _ _ _ hc ih => exact .enter (fun hs => by simpa [hs] using hc) (ih ho)
  | case4 _ _ _ ih => exact .exit (ih ho)
  | case7 _ _ ih => exact .set (ih ho)
  -- the refusals: a re-entry under `strict`, an exit that is not the innermost call's, an assignment inside a call
  | case2 | case5 | case6 | case8 => cases ho

theorem openAfter_exit (strict : Bool) (p : Nat) (stk : List Nat) (h : List Ev) :
    openAfter strict (p :: stk) (.exit p :: h) = openAfter strict stk h := if_pos rfl

/-- back to the checker; with `Accepted.of_openAfter`: refusing re-entry only removes histories -/
theorem Accepted.openAfter_false {strict : Bool} {stk stk' : List Nat} {h : List Ev}
    (ho : Accepted strict stk h stk') : openAfter false stk h = some stk' := by
  induction ho with
  | nil => rfl
  | enter _ _ ih => exact ih
  | exit _ ih => rw [openAfter_exit, ih]
  | set _ ih => exact ih

/-- the flag while the calls `stk` are open: the innermost parser's value, at top level the caller's -/
def top (pv : Nat → Bool) (v : Bool) : List Nat → Bool
  | [] => v
  | p :: _ => pv p

/-- the state reached from `s` (flag `v`) by entering the parsers of `stk`, outermost (last) first -/
def opened (pv : Nat → Bool) (s : StackState) (v : Bool) : List Nat → StackState
  | [] => { s with flag := v }
  | p :: stk => stepStack pv (opened pv s v stk) (.enter p)

theorem opened_nil_self (pv : Nat → Bool) (s : StackState) : opened pv s s.flag [] = s := by
  cases s; rfl

theorem opened_flag_cons (pv : Nat → Bool) (s : StackState) (v : Bool) (p : Nat) (stk : List Nat) :
    (opened pv s v (p :: stk)).flag = pv p := rfl

theorem opened_flag (pv : Nat → Bool) (s : StackState) (v : Bool) (stk : List Nat) :
    (opened pv s v stk).flag = top pv v stk := by
  cases stk <;> rfl

/-- The invariant of the Stack discipline: a history the checker accepts takes the state with the calls `stk`
open to the state with the calls `stk'` open, the flag at top level being what the caller last set. -/
theorem runStack_opened (pv : Nat → Bool) (s : StackState) {stk stk' : List Nat} {h : List Ev}
    (ho : Accepted false stk h stk') (v : Bool) :
    runStack pv (opened pv s v stk) h = opened pv s (lastSet v h) stk' := by
  induction ho generalizing v with
  | nil => rfl
  | enter _ _ ih => exact ih v
  | @exit p stk h _ _ ih =>
    show runStack pv (stepStack pv (stepStack pv (opened pv s v stk) (.enter p)) (.exit p)) h = _
    rw [exit_enter, ih]
    rfl
  | set _ ih => exact ih _

/-! ### the checker and the grammar describe the same histories -/

theorem calls_open {inner : List Ev} (hc : Calls inner) (stk : List Nat) (rest : List Ev) :
    openAfter false stk (inner ++ rest) = openAfter false stk rest := by
  induction hc generalizing stk rest with
  | nil => rfl
  | call p _ _ ihi ihr =>
    show openAfter false (p :: stk) (_ ++ .exit p :: _ ++ rest) = _
    rw [List.append_assoc, ihi, List.cons_append, openAfter_exit, ihr]

theorem history_wellNested {h : List Ev} (hh : History h) : WellNested h := by
  induction hh with
  | nil => rfl
  | set v _ ih => exact ih
  | call p hc _ ih =>
    show openAfter false [p] _ = _
    rw [calls_open hc, openAfter_exit, ih]

theorem calls_history {h : List Ev} (hc : Calls h) : History h := by
  induction hc with
  | nil => exact .nil
  | call p hi _ _ ihr => exact .call p hi ihr

/-- what closing the open calls `stk` takes: for each of them, innermost first, complete calls and then its
exit; after the last a top-level history -/
def Closes : List Nat → List Ev → Prop
  | [], h => History h
  | p :: stk, h => ∃ inner rest, h = inner ++ .exit p :: rest ∧ Calls inner ∧ Closes stk rest

theorem closes_of_accepted {stk : List Nat} {h : List Ev} (ho : Accepted false stk h []) : Closes stk h := by
  generalize he : [] = stk' at ho
  induction ho with
  | nil => exact he ▸ History.nil
  | @enter q stk _ _ _ _ ih =>
    -- the call of q is closed first; it joins the complete calls in front of the next exit, if there is one
    obtain ⟨i, r, rfl, ci, o⟩ := ih he
    cases stk with
    | nil => exact .call q ci o
    | cons p stk =>
      obtain ⟨i₂, r₂, rfl, c₂, o₂⟩ := o
      exact ⟨.enter q :: (i ++ .exit q :: i₂), r₂, by simp, .call q ci c₂, o₂⟩
  | exit _ ih => exact ⟨[], _, rfl, .nil, ih he⟩
  | set _ ih => exact History.set _ (ih he)

/-! ### the Slot discipline without re-entry -/

/-- every active parser is active once and its slot holds what the flag was when it was entered -/
def SlotsOk (pv : Nat → Bool) (v : Bool) (slot : Nat → Bool) : List Nat → Prop
  | [] => True
  | p :: rest => p ∉ rest ∧ slot p = top pv v rest ∧ SlotsOk pv v slot rest

theorem slotsOk_upd {pv : Nat → Bool} {v : Bool} {slot : Nat → Bool} {p : Nat} (a : Bool) :
    ∀ {stk : List Nat}, p ∉ stk → SlotsOk pv v slot stk → SlotsOk pv v (upd slot p a) stk
  | [], _, _ => trivial
  | _ :: _, hp, hs =>
    ⟨hs.1, (upd_other fun hqp => hp (List.mem_cons.2 (.inl hqp.symm))).trans hs.2.1,
      slotsOk_upd a (fun hpr => hp (List.mem_cons.2 (.inr hpr))) hs.2.2⟩

/-- The invariant of the Slot discipline: over a history accepted without re-entry the flag stays `top` and the
slots of the active parsers stay `SlotsOk`, for the value the caller last set. -/
theorem runSlot_slotsOk (pv : Nat → Bool) {stk stk' : List Nat} {h : List Ev} (ho : Accepted true stk h stk')
    (v : Bool) (s : SlotState) (hf : s.flag = top pv v stk) (hs : SlotsOk pv v s.slot stk) :
    (runSlot pv s h).flag = top pv (lastSet v h) stk' ∧ SlotsOk pv (lastSet v h) (runSlot pv s h).slot stk' := by
  induction ho generalizing v s with
  | nil => exact ⟨hf, hs⟩
  | @enter p _ _ _ hp _ ih =>
    exact ih v (stepSlot pv s (.enter p)) rfl
      ⟨hp rfl, (upd_same ..).trans hf, slotsOk_upd s.flag (hp rfl) hs⟩
  | exit _ ih => exact ih v _ hs.2.1 hs.2.2
  | set _ ih => exact ih _ _ rfl trivial

theorem history_calls {h : List Ev} (hh : History h) (hn : ∀ v, Ev.set v ∉ h) : Calls h := by
  induction hh with
  | nil => exact .nil
  | set v _ _ => exact absurd (List.mem_cons_self ..) (hn v)
  | call p hc _ ih => exact .call p hc (ih fun v hv => hn v (by simp [hv]))

theorem calls_no_set {h : List Ev} (hc : Calls h) (v : Bool) : Ev.set v ∉ h := by
  induction hc with
  | nil => exact List.not_mem_nil
  | call p _ _ ihi ihr => simp [ihi, ihr]

end CssVerif.SaveStack
