/-
The number branch of the serializer (`fixedRounding = true`) taken apart: what `parseNum` returns (`WF`), the
serializer's tests and the three texts it writes (`signOut`, `numOut`, `unitOut`), the shape of the number text
in every branch (`NumShape`), and what is read back from it.
-/
import CssVerif.Proofs.Number
namespace CssVerif.Number

/-! ### what `parseNum` returns -/

/-- the facts about a `Parsed` that hold for everything `parseNum` returns -/
structure WF (p : Parsed) : Prop where
  sign : p.sign = none ∨ p.sign = some 43 ∨ p.sign = some 45
  neg : p.value.neg = (p.sign == some 45)
  den : 0 < p.value.den
  intDen : p.isFloat = false → p.value.den = 1
  dimHead : ∀ c ∈ p.dim.head?, isDigit c = false
  dimInt : p.isFloat = false → dotDigit p.dim = false

theorem WF.unitText {p : Parsed} (h : WF p) (hf : p.isFloat = false) : UnitText p.dim :=
  ⟨h.dimHead, h.dimInt hf⟩

theorem dropWhile_head (l : List Nat) : ∀ c ∈ (l.dropWhile isDigit).head?, isDigit c = false := by
  intro c hc
  have h := List.head?_dropWhile_not isDigit l
  rw [Option.mem_def.mp hc] at h
  exact h

theorem splitSign_sign (t : Text) :
    (splitSign t).1 = none ∨ (splitSign t).1 = some 43 ∨ (splitSign t).1 = some 45 := by
  unfold splitSign
  split <;> simp

theorem takeWhile_nil_dotDigit (r2 : List Nat) (h : (r2.takeWhile isDigit).isEmpty = true) :
    dotDigit (46 :: r2) = false := by
  cases r2 with
  | nil => rfl
  | cons c cs =>
    simp only [dotDigit]
    cases hc : isDigit c with
    | false => rfl
    | true => simp [hc] at h

/-- the rest is a `dropWhile isDigit` in each of the three exits of `splitNum` -/
theorem splitNum_wf (t : Text) (sign : Option Nat) (ip : List Nat) (fpo : Option (List Nat)) (rest : Text)
    (h : splitNum t = some (sign, ip, fpo, rest)) :
    (sign = none ∨ sign = some 43 ∨ sign = some 45) ∧ (∀ c ∈ rest.head?, isDigit c = false) ∧
    (fpo = none → dotDigit rest = false) := by
  unfold splitNum at h
  simp only at h
  split at h
  next r2 hr1 =>
    -- after the integer digits comes `.`
    split at h
    next hfp =>
      -- … but no digit: an integer followed by a rest that starts with `.`
      split at h
      · cases h
      · cases h
        exact ⟨splitSign_sign t, dropWhile_head _, fun _ => hr1 ▸ takeWhile_nil_dotDigit r2 hfp⟩
    next =>
      -- … and a fraction
      cases h
      exact ⟨splitSign_sign t, dropWhile_head _, nofun⟩
  next hr1 =>
    -- no `.` after the integer digits
    split at h
    · cases h
    · cases h
      refine ⟨splitSign_sign t, dropWhile_head _, fun _ => ?_⟩
      generalize List.dropWhile isDigit (splitSign t).2 = r1 at hr1
      unfold dotDigit
      split
      · exact absurd rfl (hr1 _)
      · rfl

theorem snd_ite_pos (c : Prop) [Decidable c] (a b : Nat × Nat) (ha : 0 < a.2) (hb : 0 < b.2) :
    0 < (if c then a else b).2 := by
  split <;> assumption

/-- both `if`s of `roundToDouble` end in a pair whose second component is `1` or a power of two.  Given as a
term through `snd_ite_pos`, so that unification looks through the `let`s; `unfold roundToDouble; split` inlines
them into the goal and is fifteen times slower to check -/
theorem roundToDouble_den (num den : Nat) : 0 < (roundToDouble num den).2 :=
  snd_ite_pos _ _ _ Nat.zero_lt_one (snd_ite_pos _ _ _ Nat.zero_lt_one (Nat.pow_pos (by decide)))

theorem parseNum_int (t : Text) (sign : Option Nat) (ip : List Nat) (rest : Text)
    (h : splitNum t = some (sign, ip, none, rest)) :
    parseNum t = some ⟨sign, false, ⟨sign == some 45, digitsVal ip, 1⟩, rest⟩ := by
  unfold parseNum; rw [h]

theorem parseNum_float (t : Text) (sign : Option Nat) (ip fp : List Nat) (rest : Text)
    (h : splitNum t = some (sign, ip, some fp, rest)) :
    parseNum t = some ⟨sign, true, ⟨sign == some 45, (roundToDouble (digitsVal (ip ++ fp)) (10 ^ fp.length)).1,
        (roundToDouble (digitsVal (ip ++ fp)) (10 ^ fp.length)).2⟩, rest⟩ := by
  unfold parseNum; rw [h]

theorem parseNum_wf (t : Text) (p : Parsed) (h : parseNum t = some p) : WF p := by
  cases hs : splitNum t with
  | none => unfold parseNum at h; rw [hs] at h; cases h
  | some r =>
    obtain ⟨sign, ip, fpo, rest⟩ := r
    obtain ⟨h1, h2, h3⟩ := splitNum_wf t _ _ _ _ hs
    cases fpo with
    | none =>
      rw [parseNum_int t _ _ _ hs] at h
      cases h
      exact { sign := h1, neg := rfl, den := Nat.zero_lt_one, intDen := fun _ => rfl, dimHead := h2,
              dimInt := fun _ => h3 rfl }
    | some fp =>
      rw [parseNum_float t _ _ _ _ hs] at h
      cases h
      exact { sign := h1, neg := rfl, den := roundToDouble_den _ _, intDen := fun hf => Bool.noConfusion hf,
              dimHead := h2, dimInt := fun hf => Bool.noConfusion hf }

/-! ### the tests of the serializer, the three texts it writes, and the value they stand for -/

/-- the zero test of the repaired serializer (`round(value, 6) == 0`) -/
def printsZero (p : Parsed) : Bool := if p.isFloat then round6 p.value == 0 else p.value.isZero
/-- the integer test (`num == int(num)`) -/
def printsInt (p : Parsed) : Bool := if p.isFloat then round6 p.value % 1000000 == 0 else p.value.isInt
/-- `-1 < num < 1` -/
def printsSmall (p : Parsed) : Bool :=
  if p.isFloat then decide (round6 p.value < 1000000) else p.value.absLt ⟨false, 1, 1⟩
/-- `int(num)` (absolute value) -/
def intPart (p : Parsed) : Nat := if p.isFloat then round6 p.value / 1000000 else p.value.num / p.value.den

def signOut (p : Parsed) : Text := if p.sign == some 43 && !printsZero p then [43] else []
def unitOut (p : Parsed) : Text := if printsZero p && zeroUnits.contains p.dim then [] else p.dim
def numOut (om : Bool) (p : Parsed) : Text :=
  if printsZero p then [48]
  else if printsInt p then (if p.value.neg && intPart p != 0 then [45] else []) ++ natDigits (intPart p)
  else if om && printsSmall p then
    (if p.sign == some 45 then (stripZeros (fmtF p.value)).take 1 ++ (stripZeros (fmtF p.value)).drop 2
     else (stripZeros (fmtF p.value)).drop 1)
  else stripZeros (fmtF p.value)

theorem fmtParts_eq (om : Bool) (p : Parsed) : fmtParts true om p = (signOut p, numOut om p, unitOut p) := by
  -- the tests of `fmtParts true` are, by definition, the named ones
  have hz : (if (true && p.isFloat) = true then round6 p.value == 0 else p.value.isZero) = printsZero p := rfl
  have hi : (if (true && p.isFloat) = true then round6 p.value % 1000000 == 0 else p.value.isInt)
      = printsInt p := rfl
  have hs : (if (true && p.isFloat) = true then decide (round6 p.value < 1000000)
      else p.value.absLt ⟨false, 1, 1⟩) = printsSmall p := rfl
  have hk : (if (true && p.isFloat) = true then round6 p.value / 1000000 else p.value.num / p.value.den)
      = intPart p := rfl
  unfold fmtParts signOut numOut unitOut
  simp only [hz, hi, hs, hk]
  rw [Bool.and_comm (p.sign == some 43)]
  cases printsZero p
  · cases printsInt p
    · cases (om && printsSmall p) <;> rfl
    · rfl
  · rfl

/-- `out.append(sign + val + dim)` -/
theorem fmtNumber_eq (om : Bool) (p : Parsed) :
    fmtNumber true om p = signOut p ++ numOut om p ++ unitOut p := by
  unfold fmtNumber
  rw [fmtParts_eq]

/-- the value the number text has to denote: for a float literal the value rounded to six places,
for an integer literal the value itself; the sign is that of the literal, but a zero carries no sign -/
def expected (p : Parsed) : Q :=
  if p.isFloat then ⟨p.value.neg && round6 p.value != 0, round6 p.value, 1000000⟩
  else ⟨p.value.neg && p.value.num != 0, p.value.num, p.value.den⟩

/-- the sign character `parseNum` finds in the written text -/
def signBack (p : Parsed) : Option Nat :=
  if p.sign == some 43 && !printsZero p then some 43 else if (expected p).neg then some 45 else none

theorem signBack_cases (p : Parsed) : signBack p = none ∨ signBack p = some 43 ∨ signBack p = some 45 := by
  unfold signBack
  split
  · simp
  · split <;> simp

/-! the serializer's tests, `int(num)` and the sign, said through the expected value -/

theorem printsInt_eq (p : Parsed) : printsInt p = ((expected p).num % (expected p).den == 0) := by
  unfold printsInt expected Q.isInt
  cases p.isFloat <;> simp only [Bool.false_eq_true, if_true, if_false]

theorem intPart_eq (p : Parsed) : intPart p = (expected p).num / (expected p).den := by
  unfold intPart expected
  cases p.isFloat <;> simp only [Bool.false_eq_true, if_true, if_false]

theorem expected_neg (p : Parsed) : (expected p).neg = (p.value.neg && (expected p).num != 0) := by
  unfold expected
  cases p.isFloat <;> simp only [Bool.false_eq_true, if_true, if_false]

theorem expected_float (p : Parsed) (hf : p.isFloat = true) (hr : round6 p.value ≠ 0) :
    expected p = ⟨p.value.neg, round6 p.value, 1000000⟩ := by
  simp [expected, hf, hr]

theorem printsZero_iff (p : Parsed) : printsZero p = true ↔ (expected p).num = 0 := by
  unfold printsZero expected Q.isZero
  cases p.isFloat <;> simp only [Bool.false_eq_true, if_true, if_false, beq_iff_eq]

theorem printsZero_int (p : Parsed) (h : printsZero p = true) : printsInt p = true := by
  rw [printsInt_eq, (printsZero_iff p).mp h, Nat.zero_mod]
  rfl

theorem expected_no_neg_zero (p : Parsed) (h : (expected p).num = 0) : (expected p).neg = false := by
  rw [expected_neg, h]
  exact Bool.and_false _

theorem expected_neg_imp (p : Parsed) (h : (expected p).neg = true) : p.value.neg = true := by
  rw [expected_neg, Bool.and_eq_true] at h
  exact h.1

theorem expected_den_pos (p : Parsed) (hd : 0 < p.value.den) : 0 < (expected p).den := by
  unfold expected
  split
  · exact Nat.zero_lt_succ _
  · exact hd

/-- `+` is only written in front of a number text without `-` -/
theorem signOut_append_minus (p : Parsed) (hwf : WF p) :
    signOut p ++ minus (expected p).neg = signText (signBack p) ∧
    (signBack p == some 45) = (expected p).neg := by
  unfold signOut signBack
  by_cases h : (p.sign == some 43 && !printsZero p) = true
  · simp only [h, if_true]
    have hs : p.sign = some 43 := by
      simp only [Bool.and_eq_true, beq_iff_eq] at h; exact h.1
    have hn : (expected p).neg = false := by
      cases he : (expected p).neg with
      | false => rfl
      | true =>
        have := expected_neg_imp p he
        rw [hwf.neg, hs] at this
        cases this
    rw [hn]
    exact ⟨rfl, rfl⟩
  · simp only [h, Bool.false_eq_true, if_false]
    cases (expected p).neg <;> exact ⟨rfl, rfl⟩

theorem unitOut_head (p : Parsed) (h : ∀ c ∈ p.dim.head?, isDigit c = false) :
    ∀ c ∈ (unitOut p).head?, isDigit c = false := by
  unfold unitOut
  split
  · intro c hc; simp at hc
  · exact h

theorem unitOut_unitText (p : Parsed) (h : UnitText p.dim) : UnitText (unitOut p) := by
  unfold unitOut
  split
  · exact unitText_nil
  · exact h

/-! ### the shape of the number text in every branch -/

/-- the two forms of the number text: digits, or digits `.` digits -/
inductive NumShape (p : Parsed) (t : Text) : Prop
  | int (ip : List Nat) (hip : ∀ c ∈ ip, isDigit c = true) (hne : ip ≠ []) (hint : printsInt p = true)
      (ht : t = minus (expected p).neg ++ ip)
      (hv : Q.same ⟨(expected p).neg, digitsVal ip, 1⟩ (expected p))
  | frac (ip fp : List Nat) (hip : ∀ c ∈ ip, isDigit c = true) (hfp : ∀ c ∈ fp, isDigit c = true)
      (hne : fp ≠ []) (hint : printsInt p = false)
      (ht : t = decimalText (expected p).neg ip fp)
      (hv : Q.same ⟨(expected p).neg, digitsVal (ip ++ fp), 10 ^ fp.length⟩ (expected p))

theorem numOut_shape_int (om : Bool) (p : Parsed) (hi : printsInt p = true) : NumShape p (numOut om p) := by
  have hdvd : intPart p * (expected p).den = (expected p).num := by
    rw [printsInt_eq, beq_iff_eq] at hi
    rw [intPart_eq]
    exact Nat.div_mul_cancel (Nat.dvd_of_mod_eq_zero hi)
  cases hz : printsZero p with
  | true =>
    have h0 := (printsZero_iff p).mp hz
    refine .int (ip := [48]) (hip := fun c hc => by rw [List.mem_singleton.mp hc]; rfl)
      (hne := List.cons_ne_nil _ _) (hint := hi) (ht := ?_) (hv := ⟨rfl, ?_⟩)
    · rw [expected_no_neg_zero p h0]
      simp [numOut, hz, minus]
    · rw [h0]
      exact Nat.zero_mul _
  | false =>
    have hne : (expected p).num ≠ 0 := fun h => by rw [(printsZero_iff p).mpr h] at hz; cases hz
    have hk : intPart p ≠ 0 := fun h => hne (by rw [← hdvd, h, Nat.zero_mul])
    refine .int (ip := natDigits (intPart p)) (hip := natDigits_digits _) (hne := natDigits_ne_nil _)
      (hint := hi) (ht := ?_) (hv := ⟨rfl, ?_⟩)
    · simp [numOut, hz, hi, hk, minus, expected_neg, hne]
    · rw [natDigits_val, Nat.mul_one]
      exact hdvd

/-- the two fraction branches: what is left of `'%f'`, without its `0` if the leading zero is omitted -/
theorem numOut_shape_frac (om : Bool) (p : Parsed) (hf : p.isFloat = true)
    (hsign : p.value.neg = (p.sign == some 45)) (hi : printsInt p = false) : NumShape p (numOut om p) := by
  have hz : printsZero p = false := by
    cases h : printsZero p with
    | false => rfl
    | true => rw [printsZero_int p h] at hi; cases hi
  have hr : round6 p.value ≠ 0 := by simpa [printsZero, hf] using hz
  have hex := expected_float p hf hr
  have hneg : (p.value.neg && !p.value.isZero) = p.value.neg := by
    cases h : p.value.isZero with
    | false => exact Bool.and_true _
    | true => exact absurd (round6_num_zero _ (beq_iff_eq.mp h)) hr
  obtain ⟨fp, hst, hne, hfp, hv⟩ := fmtF_strip p.value
  rw [hneg] at hst
  cases hbr : om && printsSmall p with
  | false =>
    refine .frac (ip := natDigits (round6 p.value / 1000000)) (fp := fp) (hip := natDigits_digits _)
      (hfp := hfp) (hne := hne) (hint := hi) (ht := ?_) (hv := ?_)
    · simp [numOut, hz, hi, hbr, hst, hex]
    · rw [hex]
      exact ⟨rfl, hv⟩
  | true =>
    have hsm : round6 p.value < 1000000 := by
      rw [Bool.and_eq_true] at hbr
      simpa [printsSmall, hf] using hbr.2
    rw [Nat.div_eq_of_lt hsm, natDigits_zero] at hst hv
    rw [digitsVal_leading_zero] at hv
    refine .frac (ip := []) (fp := fp) (hip := fun c hc => nomatch hc) (hfp := hfp) (hne := hne) (hint := hi)
      (ht := ?_) (hv := ?_)
    · simp only [numOut, hz, hi, hbr, Bool.false_eq_true, if_false, if_true]
      rw [hst, ← hsign, hex]
      exact omit_surgery p.value.neg fp
    · rw [hex]
      exact ⟨rfl, hv⟩

/-- **the number text in every branch**: digits (zero and integer branches) or digits `.` digits
(the two float branches), denoting exactly the expected value with the expected sign -/
theorem numOut_shape (om : Bool) (p : Parsed) (hwf : WF p) : NumShape p (numOut om p) := by
  cases hi : printsInt p with
  | true => exact numOut_shape_int om p hi
  | false =>
    cases hf : p.isFloat with
    | true => exact numOut_shape_frac om p hf hwf.neg hi
    | false =>
      -- an integer literal has denominator 1
      rw [printsInt_eq] at hi
      simp [expected, hf, hwf.intDen hf, Nat.mod_one] at hi

theorem shape_decimalValue (p : Parsed) (t : Text) (h : NumShape p t) :
    ∃ v, decimalValue t = some v ∧ Q.same v (expected p) ∧ 0 < v.den ∧ (printsInt p = true → v.den = 1) := by
  cases h with
  | int ip hip hne hint ht hv =>
    exact ⟨_, by rw [ht]; exact decimalValue_int _ ip hip hne, hv, Nat.zero_lt_one, fun _ => rfl⟩
  | frac ip fp hip hfp hne hint ht hv =>
    exact ⟨_, by rw [ht]; exact decimalValue_decimalText _ ip fp hip hfp hne, hv, Nat.pow_pos (by decide),
      fun h => by rw [hint] at h; cases h⟩

/-! ### reading the written text back -/

theorem reparse_all (om : Bool) (p : Parsed) (hwf : WF p) :
    ∃ v, decimalValue (numOut om p) = some v ∧ Q.same v (expected p) ∧ 0 < v.den ∧
      (printsInt p = true → v.den = 1) :=
  shape_decimalValue p _ (numOut_shape om p hwf)

/-! what follows for any `v` that denotes the expected value -/

theorem zero_iff_printsZero (p : Parsed) (v : Q) (hden : 0 < p.value.den) (hs : Q.same v (expected p))
    (hd : 0 < v.den) : printsZero p = true ↔ v.num = 0 :=
  (printsZero_iff p).trans (same_num_zero v _ hs hd (expected_den_pos p hden)).symm

theorem no_neg_zero (p : Parsed) (v : Q) (hden : 0 < p.value.den) (hs : Q.same v (expected p))
    (hd : 0 < v.den) (h0 : v.num = 0) : v.neg = false := by
  rw [hs.1]
  exact expected_no_neg_zero p ((same_num_zero v _ hs hd (expected_den_pos p hden)).mp h0)

theorem int_branch_num (p : Parsed) (v : Q) (hden : 0 < p.value.den) (hs : Q.same v (expected p))
    (hd : v.den = 1) : v.num = intPart p := by
  have h := hs.2
  rw [hd, Nat.mul_one] at h
  rw [intPart_eq]
  exact (Nat.div_eq_of_eq_mul_left (expected_den_pos p hden) h.symm).symm

/-- a bound on a difference, carried over to the same difference on another scale -/
theorem scale_sub (M e d a b a' b' : Nat) (ha : M * a = e * a') (hb : M * b = e * b')
    (h : 2 * (a' - b') ≤ d) : 2 * M * (a - b) ≤ d * e := by
  rw [Nat.mul_assoc, Nat.mul_sub, ha, hb, ← Nat.mul_sub, Nat.mul_left_comm, Nat.mul_comm d e]
  exact Nat.mul_le_mul_left e h

theorem expected_close (p : Parsed) (hden : 0 < p.value.den) (v : Q) (hs : Q.same v (expected p)) :
    2 * 1000000 * (v.num * p.value.den - p.value.num * v.den) ≤ p.value.den * v.den ∧
    2 * 1000000 * (p.value.num * v.den - v.num * p.value.den) ≤ p.value.den * v.den := by
  have h2 := hs.2
  unfold expected at h2
  cases hf : p.isFloat
  · simp only [hf, Bool.false_eq_true, if_false] at h2
    rw [h2, Nat.sub_self]
    exact ⟨Nat.zero_le _, Nat.zero_le _⟩
  · simp only [hf, if_true] at h2
    -- `v.num * 10^6 = round6 * v.den`: both products, times `10^6`, are products of the rounding error by `v.den`
    have e1 : 1000000 * (v.num * p.value.den) = v.den * (round6 p.value * p.value.den) := by
      rw [← Nat.mul_assoc, Nat.mul_comm 1000000, h2, Nat.mul_comm _ v.den, Nat.mul_assoc]
    have e2 : 1000000 * (p.value.num * v.den) = v.den * (p.value.num * 1000000) := by
      rw [Nat.mul_left_comm, Nat.mul_comm 1000000, Nat.mul_left_comm]
    obtain ⟨ha, hb⟩ := round6_error p.value hden
    exact ⟨scale_sub _ _ _ _ _ _ _ e1 e2 ha, scale_sub _ _ _ _ _ _ _ e2 e1 hb⟩

/-- **the written text parses again**: with the sign, the unit and — for the number — the Python
number of the decimal value written (an `int`, or the correctly rounded double of a fraction text) -/
theorem reparse_text (om : Bool) (p : Parsed) (hwf : WF p) (hdim : printsInt p = true → UnitText p.dim) :
    ∃ v, decimalValue (numOut om p) = some v ∧ Q.same v (expected p) ∧
      parseNum (signOut p ++ numOut om p ++ unitOut p) =
        some ⟨signBack p, !printsInt p,
          if printsInt p then v else ⟨v.neg, (roundToDouble v.num v.den).1, (roundToDouble v.num v.den).2⟩,
          unitOut p⟩ := by
  obtain ⟨hsm, hsb⟩ := signOut_append_minus p hwf
  cases numOut_shape om p hwf with
  | int ip hip hne hint ht hv =>
    refine ⟨_, by rw [ht]; exact decimalValue_int _ ip hip hne, hv, ?_⟩
    have htxt : signOut p ++ numOut om p ++ unitOut p = signText (signBack p) ++ ip ++ unitOut p := by
      rw [ht, ← List.append_assoc, hsm]
    rw [htxt, parseNum_int _ _ _ _ (splitNum_int _ (signBack_cases p) ip _ hip hne (unitOut_unitText p (hdim hint)))]
    simp only [hint, hsb, Bool.not_true, if_true]
  | frac ip fp hip hfp hne hint ht hv =>
    refine ⟨_, by rw [ht]; exact decimalValue_decimalText _ ip fp hip hfp hne, hv, ?_⟩
    have htxt : signOut p ++ numOut om p ++ unitOut p
        = signText (signBack p) ++ ip ++ 46 :: fp ++ unitOut p := by
      rw [ht]
      unfold decimalText
      rw [← hsm]
      simp
    rw [htxt, parseNum_float _ _ _ _ _ (splitNum_float _ (signBack_cases p) ip fp _ hip hfp hne
      (unitOut_head p hwf.dimHead))]
    simp only [hint, hsb, Bool.not_false, Bool.false_eq_true, if_false]

end CssVerif.Number
