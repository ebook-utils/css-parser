/-
Media query LISTS on the combinator engine: `MQ.mediaList` (the engine running the grammar of
`MediaList._setMediaText`, every query parsed by a nested engine run with `_partof=True` on the same token
stream) gives the verdict of `MQ.listAccepts`, a recogniser written independently of the engine.
-/
import CssVerif.Proofs.ProdParser
namespace CssVerif.PP.MQ
open CssVerif.PP

/- `sim`: `stopIfNoMoreMatch` has been set — by a known media type or (inside a list) by a closing parenthesis -/
mutual
  def sAnd (c : List Text) (sim : Bool) : List Tok → Out
    | [] => .done true
    | t :: ts =>
      if skip t then sAnd c sim ts else if bad t then .fail
      else if pAnd.eval t then sAfterAnd c sim ts else if sim then .back t ts else .fail
  def sAfterAnd (c : List Text) (sim : Bool) : List Tok → Out
    | [] => .done false
    | t :: ts =>
      if skip t then sAfterAnd c sim ts else if bad t then .fail
      else if pLpar.eval t then sLpar c sim ts else if sim then .lost t ts else .fail
  def sLpar (c : List Text) (sim : Bool) : List Tok → Out
    | [] => .done false
    | t :: ts =>
      if skip t then sLpar c sim ts else if bad t then .fail
      else if pIdent.eval t then sFeature c sim ts else if sim then .lost t ts else .fail
  def sFeature (c : List Text) (sim : Bool) : List Tok → Out
    | [] => .done false
    | t :: ts =>
      if skip t then sFeature c sim ts else if bad t then .fail
      else if pColon.eval t then sColon c sim ts else if pRpar.eval t then sAnd c true ts
      else if sim then .lost t ts else .fail
  def sColon (c : List Text) (sim : Bool) : List Tok → Out
    | [] => .done false
    | t :: ts =>
      if skip t then sColon c sim ts else if bad t then .fail
      else if isValue c t then sValue c sim ts else if sim then .lost t ts else .fail
  def sValue (c : List Text) (sim : Bool) : List Tok → Out
    | [] => .done false
    | t :: ts =>
      if skip t then sValue c sim ts else if bad t then .fail
      else if pRpar.eval t then sAnd c true ts else if sim then .lost t ts else .fail
end

def sON (c : List Text) (sim : Bool) : List Tok → Out
  | [] => .done false
  | t :: ts =>
    if skip t then sON c sim ts else if bad t then .fail
    else if pKnown.eval t then sAnd c true ts else if sim then .lost t ts else .fail

/-- one media query at the head of the token list -/
def sQuery (c : List Text) : List Tok → Out
  | [] => .done false
  | t :: ts =>
    if skip t then sQuery c ts else if bad t then .fail
    else if pOnlyNot.eval t then sON c false ts
    else if pKnown.eval t then sAnd c true ts
    else if pLpar.eval t then sLpar c false ts
    else if pIdent.eval t then sAnd c false ts
    else .fail

def pStart : Pred := .or (.kind .ident) (.val tLpar)
def pComma : Pred := .val tComma

/-! ### the language of media query lists, written independently of the engine

Over the raw tokens (S and COMMENT are skipped where they stand).  `g`: the list is parsed from a string (the token
source is the global tokenizer) — then a token at which a query stopped quietly *inside* an `and ( … )` part
comes back before the next token of the text, if there is one; otherwise (`MediaList` of an `@media` / `@import`
rule, or nothing follows) that token is lost.
The first argument is fuel: after a quiet stop the recursion goes on at the token the query stopped at, a proper
suffix of the tokens but not a subterm; every call consumes a token, so `length + 1` is enough (`listAccepts`). -/

mutual
  /-- a query is expected -/
  def lQuery (c : List Text) (g : Bool) : Nat → List Tok → Bool
    | 0, _ => false
    | _ + 1, [] => false
    | f + 1, t :: ts =>
      if skip t then lQuery c g f ts else if bad t then false
      else if pStart.eval t then
        match sQuery c (t :: ts) with
        | .done w => w
        | .back x r => lSep c g f (x :: r)
        | .lost x r => if g && !r.isEmpty then lSep c g f (x :: r) else lSep c g f r
        | .fail => false
      else false
  /-- after a query: the end, or a comma and another query -/
  def lSep (c : List Text) (g : Bool) : Nat → List Tok → Bool
    | 0, _ => false
    | _ + 1, [] => true
    | f + 1, t :: ts =>
      if skip t then lSep c g f ts else if bad t then false else if pComma.eval t then lQuery c g f ts else false
end

def listAccepts (c : List Text) (g : Bool) (toks : List Tok) : Bool := lQuery c g (toks.length + 1) toks

def Q.scan (c : List Text) (sim : Bool) : Q → List Tok → Out
  | .start => sQuery c
  | .afterON => sON c sim
  | .afterType _ => sAnd c sim
  | .afterAnd _ _ => sAfterAnd c sim
  | .inExpr _ .lpar => sLpar c sim
  | .inExpr _ .feature => sFeature c sim
  | .inExpr _ .colon => sColon c sim
  | .inExpr _ .value => sValue c sim
  | .inExpr _ .rpar => sAnd c sim

variable (c : List Text) (t : Tok)

section
attribute [local simp] Q.scan Q.step Q.lang sQuery sON sAnd sAfterAnd sLpar sFeature sColon sValue accepts afterOnlyNot
  andExprs afterAnd afterLpar afterFeature afterColon afterValue fOnlyNot fType fAnd fOpen fFeature fColon fClose vF_simm

theorem scan_nil (q : Q) (sim : Bool) : q.scan c sim [] = .done (q.lang c []) := by
  rcases q with _ | _ | _ | _ | ⟨_, _ | _ | _ | _ | _⟩ <;> simp

theorem scan_skip (q : Q) (sim : Bool) (ts : List Tok) (h : skip t = true) : q.scan c sim (t :: ts) = q.scan c sim ts := by
  rcases q with _ | _ | _ | _ | ⟨_, _ | _ | _ | _ | _⟩ <;> simp [h]

theorem scan_bad (q : Q) (sim : Bool) (ts : List Tok) (h : skip t = false) (hb : bad t = true) :
    q.scan c sim (t :: ts) = .fail := by
  rcases q with _ | _ | _ | _ | ⟨_, _ | _ | _ | _ | _⟩ <;> simp [h, hb]

/-- the scan makes the move of the automaton of a nested query (before the first token nothing has set `sim`) -/
theorem scan_step (q : Q) (sim : Bool) (ts : List Tok) (h : skip t = false) (hb : bad t = false)
    (h0 : q = .start → sim = false) :
    match q.step true c t with
    | .go f q' => q' ≠ .start ∧ q.scan c sim (t :: ts) = q'.scan c (f.simm || sim) ts
    | .rej => q.scan c sim (t :: ts) = if sim then .back t ts else .fail
    | .err => q.scan c sim (t :: ts) = if sim then .lost t ts else .fail := by
  cases q with
  | start =>
    rw [h0 rfl]
    by_cases h1 : pOnlyNot.eval t = true
    · simp [h, hb, h1]
    by_cases h2 : pKnown.eval t = true
    · simp [h, hb, h1, h2]
    by_cases h3 : pLpar.eval t = true
    · simp [h, hb, h1, h2, h3]
    by_cases h4 : pIdent.eval t = true <;> simp [h, hb, h1, h2, h3, h4]
  | afterON => by_cases h1 : pKnown.eval t = true <;> simp [h, hb, h1]
  | afterType k => by_cases h1 : pAnd.eval t = true <;> simp [h, hb, h1]
  | afterAnd b r => by_cases h1 : pLpar.eval t = true <;> simp [h, hb, h1]
  | inExpr x e =>
    cases e with
    | lpar => by_cases h1 : pIdent.eval t = true <;> simp [h, hb, h1]
    | feature =>
      by_cases h1 : pColon.eval t = true
      · simp [h, hb, h1]
      · by_cases h2 : pRpar.eval t = true <;> simp [h, hb, h1, h2]
    | colon => by_cases h1 : isValue c t = true <;> simp [h, hb, h1]
    | value => by_cases h1 : pRpar.eval t = true <;> simp [h, hb, h1]
    | rpar => by_cases h1 : pAnd.eval t = true <;> cases x <;> simp [h, hb, h1]

end

theorem run_scan : ∀ (toks : List Tok) (q : Q) (sim : Bool), (q = .start → sim = false) →
    run true c toks q sim = q.scan c sim toks
  | [], q, sim, _ => (scan_nil c q sim).symm
  | t :: ts, q, sim, h0 => by
    simp only [run]
    cases hsk : skip t with
    | true =>
      rw [scan_skip c t q sim ts hsk]
      exact run_scan ts q sim h0
    | false =>
    cases hb : bad t with
    | true => exact (scan_bad c t q sim ts hsk hb).symm
    | false =>
    have hs := scan_step c t q sim ts hsk hb h0
    simp only [Bool.false_eq_true, if_false]
    cases hq : q.step true c t with
    | go f q' =>
      rw [hq] at hs
      rw [hs.2]
      exact run_scan ts q' _ (fun h => absurd h hs.1)
    | rej | err =>
      rw [hq] at hs
      exact hs.symm

theorem listHook_spec (g : Bool) (k : Nat) (toks pushed : List Tok) (he : ∀ u ∈ t :: toks, u.kind ≠ .eof) :
    ∃ r : Res, listHook c g k t toks [] pushed =
        { item := .nested k r.wf r.items, toks := r.rest, saved := r.saved, pushed := r.pushed, errs := r.errs,
          status := r.status } ∧ r.status = .ok ∧ OutOK false (sQuery c (t :: toks)) r := by
  refine ⟨parse valueHook { toplevel := false, global := g } (grammar true c) (t :: toks) [], rfl, ?_, ?_⟩
  · exact parse_total _ _ _ _ _ grammar_wf grammar_noSpin grammar_rootOK valueHook_ok
  · rw [show sQuery c (t :: toks) = Q.start.scan c false (t :: toks) from rfl, ← run_scan c (t :: toks) .start false (fun _ => rfl)]
    exact parse_query true c false g (t :: toks) he

/-! ### the list grammar as named pieces, `nextProd` of its frames -/

def pComment : Pred := .kind .comment
def fQuery : PF := { name := nQuery, toSeq := .nested nQuery }
def fComma : PF := { name := nComma, toSeq := .drop }

def commentItems : GL := .cons (.prod { name := nComment, optional := true } pComment) .nil
def commaItems : GL := .cons (.prod fComma pComma) (.cons (.prod fQuery pStart) .nil)
def listItems : GL := .cons (.seq commentItems 0 none) (.cons (.prod fQuery pStart) (.cons (.seq commaItems 0 none) .nil))

theorem listGrammar_eq : listGrammar = .seq listItems 1 (some 1) := rfl

abbrev fL (i r : Nat) (s : Bool) : Frame := .seq listItems 1 (some 1) i r s
abbrev fK (i r : Nat) (s : Bool) : Frame := .seq commaItems 0 none i r s

section next
attribute [local simp] Frame.next seqNext choiceNext ltMax GL.length GL.get? GL.firstMatch GL.anyOptional G.matchesO
  G.matches GL.seqMatches GL.choiceMatches G.optional commentItems commaItems listItems fQuery fComma fL fK NP.quiet NP.isMissing NP.isError

theorem nL0 (hc : pComment.eval t = false) : (fL 0 0 false).next (some t) =
    if pStart.eval t then .found (.prod fQuery pStart) (fL 2 0 true) else .missing (fL 2 0 false) := by simp [hc]
theorem nL2 (s : Bool) : (fL 2 0 s).next (some t) =
    if pComma.eval t then .found (.seq commaItems 0 none) (fL 0 1 true) else .exhausted (fL 0 1 s) := by simp
theorem nLend (s : Bool) (o : Option Tok) : (fL 0 1 s).next o = if o.isSome then .exhausted (fL 0 1 s) else .none_ (fL 0 1 s) := by
  simp
theorem nK0 (r : Nat) (s : Bool) : (fK 0 r s).next (some t) =
    if pComma.eval t then .found (.prod fComma pComma) (fK 1 r true) else .noMatch (fK 1 r false) := by simp
theorem nK1 (r : Nat) : (fK 1 r true).next (some t) =
    if pStart.eval t then .found (.prod fQuery pStart) (fK 0 (r + 1) true) else .missing (fK 0 (r + 1) true) := by simp

theorem eL0 : ((fL 0 0 false).next none).isMissing = true := by simp
theorem eL2 {s : Bool} : ((fL 2 0 s).next none).quiet = true := by simp
theorem eLend {s : Bool} : ((fL 0 1 s).next none).quiet = true := by simp
theorem eK0 {r : Nat} {s : Bool} : ((fK 0 r s).next none).quiet = true := by simp
theorem eK1 {r : Nat} : ((fK 1 r true).next none).isMissing = true := by simp

end next

/-- between two tokens of the list: a query is expected (at the start, after a comma) or has been read (the first, a
    later one) -/
inductive ListPos | start | afterComma (r : Nat) | first | later (r : Nat)

def ListPos.stack : ListPos → List Frame
  | .start => [fL 0 0 false]
  | .afterComma r => [fK 1 r true, fL 0 1 true]
  | .first => [fL 2 0 true]
  | .later r => [fK 0 r true, fL 0 1 true]

def ListPos.next : ListPos → ListPos
  | .start => .first
  | .afterComma r => .later (r + 1)
  | .first => .afterComma 0
  | .later r => .afterComma r

/-- a query is expected -/
def ListPos.wants : ListPos → Bool
  | .start | .afterComma _ => true
  | _ => false

def ListPos.pred (pos : ListPos) : Pred := if pos.wants then pStart else pComma
def ListPos.prod (pos : ListPos) : PF := if pos.wants then fQuery else fComma

def stops : DR → Bool
  | .noMatch _ | .parseErr _ _ => true
  | _ => false

/-- two rounds of the descent are enough on the list grammar -/
theorem descend_listPos (pos : ListPos) (d : Nat) (last : Option PF) (hc : pComment.eval t = false) :
    if pos.pred.eval t then descend t (d + 2) pos.stack last = .prod pos.prod pos.next.stack
    else stops (descend t (d + 2) pos.stack last) = true := by
  cases pos with
  | start => by_cases h : pStart.eval t = true <;> simp [descend, ListPos.stack, ListPos.next, ListPos.pred, ListPos.prod, ListPos.wants, stops, nL0 t hc, h]
  | afterComma r => by_cases h : pStart.eval t = true <;> simp [descend, ListPos.stack, ListPos.next, ListPos.pred, ListPos.prod, ListPos.wants, stops, nK1, h]
  | first =>
    by_cases h : pComma.eval t = true <;> simp [descend, fresh, ListPos.stack, ListPos.next, ListPos.pred, ListPos.prod, ListPos.wants, stops, nL2, nK0, h]
  | later r =>
    by_cases h : pComma.eval t = true <;> simp [descend, ListPos.stack, ListPos.next, ListPos.pred, ListPos.prod, ListPos.wants, stops, nK0, nLend, h]

def verdict (r : Res) : Bool := r.wf && (allQueriesWf r.items false).1 && (allQueriesWf r.items false).2

theorem allQ_bad : ∀ (l : List Item) (s : Bool), (∃ it ∈ l, Item.queryWf it = some false) → (allQueriesWf l s).1 = false
  | [], _, ⟨_, hm, _⟩ => by cases hm
  | a :: l, s, ⟨it, hm, hq⟩ => by
    simp only [allQueriesWf]
    rcases List.mem_cons.1 hm with rfl | hm'
    · rw [hq]
    · cases Item.queryWf a with
      | none => exact allQ_bad l s ⟨it, hm', hq⟩
      | some b =>
        cases b with
        | false => rfl
        | true => exact allQ_bad l true ⟨it, hm', hq⟩

/-- with no ill-formed query among the items the check goes through them all: it asks for some query -/
theorem allQ_ok : ∀ (l : List Item) (s : Bool), (∀ it ∈ l, Item.queryWf it ≠ some false) →
    allQueriesWf l s = (true, s || l.any (fun it => Item.queryWf it == some true))
  | [], s, _ => by simp [allQueriesWf]
  | a :: l, s, h => by
    have ih := fun s' => allQ_ok l s' (fun it hm => h it (List.mem_cons_of_mem _ hm))
    have ha := h a (List.mem_cons_self ..)
    simp only [allQueriesWf, List.any_cons]
    cases hq : Item.queryWf a with
    | none => simp [ih]
    | some b =>
      cases b with
      | false => exact absurd hq ha
      | true => simp [ih]

theorem verdict_bad (r : Res) (h : ∃ it ∈ r.items, Item.queryWf it = some false) : verdict r = false := by
  simp [verdict, allQ_bad r.items false h]

theorem verdict_wf_false (r : Res) (h : r.wf = false) : verdict r = false := by simp [verdict, h]

theorem run_suffix (p : Bool) : ∀ (toks : List Tok) (q : Q) (sim : Bool) (x : Tok) (r : List Tok),
    (run p c toks q sim = .back x r ∨ run p c toks q sim = .lost x r) → x :: r <:+ toks := by
  intro toks
  induction toks with
  | nil => intro q sim x r h; rcases h with h | h <;> cases h
  | cons t ts ih =>
    intro q sim x r h
    have hcons := fun q' sim' h' => (ih q' sim' x r h').trans (List.suffix_cons t ts)
    simp only [run] at h
    cases hsk : skip t with
    | true => exact hcons q sim (by simpa [hsk] using h)
    | false =>
    cases hb : bad t with
    | true => simp [hsk, hb] at h
    | false =>
    simp only [hsk, hb, Bool.false_eq_true, if_false] at h
    cases hq : q.step p c t with
    | go f q' => exact hcons q' _ (by simpa [hq] using h)
    | rej | err =>
      rw [hq] at h
      cases sim <;> simp at h
      obtain ⟨rfl, rfl⟩ := h
      exact List.suffix_refl _

/-- a query that stops quietly has taken its first token -/
theorem sQuery_suffix (ts : List Tok) (x : Tok) (r : List Tok) (hsk : skip t = false)
    (h : sQuery c (t :: ts) = .back x r ∨ sQuery c (t :: ts) = .lost x r) : x :: r <:+ ts := by
  rw [show sQuery c (t :: ts) = Q.start.scan c false (t :: ts) from rfl, ← run_scan c (t :: ts) .start false (fun _ => rfl)] at h
  simp only [run, hsk, Bool.false_eq_true, if_false] at h
  cases hb : bad t with
  | true => simp [hb] at h
  | false =>
    simp only [hb, Bool.false_eq_true, if_false] at h
    cases hq : Q.start.step true c t with
    | go f q' => exact run_suffix c true ts q' _ x r (by simpa [hq] using h)
    | rej => simp [hq] at h
    | err => simp [hq] at h

/-- the outer loop between two tokens: nothing wrong so far, every query so far well-formed -/
structure OInv (st : LS) : Prop where
  saved : st.saved = []
  filt : st.filt = none
  defaultS : st.defaultS = true
  stopall : st.stopall = false
  wf : st.wf = true
  simm : st.simm = false
  items : ∀ it ∈ st.items, it.isS = false ∧ Item.queryWf it ≠ some false

/-- a token handed back through `savedTokens` is the next token -/
theorem loop_saved {hook : Hook} {tl g : Bool} {d n : Nat} (st : LS) {x : Tok} {ts : List Tok} (h1 : st.saved = [x])
    (h2 : st.filt = none) (h3 : st.pushed = []) :
    loop hook (cfgG tl g d) (n + 1) st ts = loop hook (cfgG tl g d) (n + 1) { st with saved := [] } (x :: ts) := by
  rw [loop_succ, loop_succ]
  cases st; cases g <;> simp_all [readTok, cfgG]

/-- a token pushed to the global tokenizer comes back before the next token of the text -/
theorem loop_pushed {hook : Hook} {tl : Bool} {d n : Nat} (st : LS) {x : Tok} {ts : List Tok} (h1 : st.saved = [])
    (h2 : st.filt = none) (h3 : st.pushed = [x]) (hne : ts ≠ []) :
    loop hook (cfgG tl true d) (n + 1) st ts = loop hook (cfgG tl true d) (n + 1) { st with pushed := [] } (x :: ts) := by
  rw [loop_succ, loop_succ]
  cases ts with
  | nil => exact absurd rfl hne
  | cons u us => cases st; simp_all [readTok, cfgG]

theorem desc_stops {hook : Hook} (cfg : Cfg) {n : Nat} (st : LS) {ts : List Tok} (hs : st.simm = false)
    (hd : stops (descend t cfg.dfuel st.stack st.last) = true) : (descStep hook cfg n st t ts).wf = false := by
  unfold descStep
  cases hdesc : descend t cfg.dfuel st.stack st.last <;> rw [hdesc] at hd <;> first | cases hd | skip
  all_goals
    simp only [hs]
    exact finish_false rfl

theorem comma_step {hook : Hook} {g : Bool} {d n : Nat} {st : LS} {ts : List Tok} (hI : OInv st) (hp : g = true → st.pushed = [])
    (hk : Real t) {stack' : List Frame} (hd : descend t (d + 2) st.stack st.last = .prod fComma stack') :
    loop hook (cfgG g g (d + 2)) (n + 1) st (t :: ts) =
      loop hook (cfgG g g (d + 2)) n { st with started := true, stack := stack', last := some fComma, defaultS := true } ts := by
  rw [loop_cons hI.saved hI.filt hp, tok_real hk,
    descStep_prod (st := { st with started := true }) (cfg := cfgG g g (d + 2)) hd]
  simp [prodStep, prodCont, fComma]

/-- the loop state after the Prod of a query, when the nested parser has returned `r` -/
def afterQuery (st : LS) (stack' : List Frame) (r : Res) : LS :=
  { st with started := true, stack := stack', last := some fQuery, defaultS := true,
            items := .nested nQuery r.wf r.items :: st.items, saved := r.saved, pushed := r.pushed,
            errs := r.errs.reverse ++ st.errs }

theorem query_step {g : Bool} {d : Nat} (n : Nat) {st : LS} {ts : List Tok} (hI : OInv st) (hp : g = true → st.pushed = [])
    (hk : Real t) {stack' : List Frame} (hd : descend t (d + 2) st.stack st.last = .prod fQuery stack')
    (he : ∀ u ∈ t :: ts, u.kind ≠ .eof) :
    ∃ r : Res, r.status = .ok ∧ OutOK false (sQuery c (t :: ts)) r ∧
      loop (listHook c g) (cfgG g g (d + 2)) (n + 1) st (t :: ts) =
        loop (listHook c g) (cfgG g g (d + 2)) n (afterQuery st stack' r) r.rest := by
  obtain ⟨r, hr, hok, hout⟩ := listHook_spec c t g nQuery ts st.pushed he
  refine ⟨r, hok, hout, ?_⟩
  rw [loop_cons hI.saved hI.filt hp, tok_real hk,
    descStep_prod (st := { st with started := true }) (cfg := cfgG g g (d + 2)) hd]
  simp only [prodStep, prodCont, fQuery, hI.saved, hr, hok, hI.simm, afterQuery]
  simp

/-- what the loop state is known to be at a position: no query among the items yet; `lastprod` is the comma; a
    well-formed query is among the items -/
def ListPos.Known (st : LS) : ListPos → Prop
  | .start => st.last = none ∧ ∀ it ∈ st.items, Item.queryWf it = none
  | .afterComma _ => ∃ f, st.last = some f ∧ f.mayEnd = false
  | _ => ∃ it ∈ st.items, Item.queryWf it = some true

theorem ListPos.Known.comment {st : LS} {pos : ListPos} (h : pos.Known st) : pos.Known { st with items := .comment :: st.items } := by
  cases pos with
  | start =>
    refine ⟨h.1, fun it hm => ?_⟩
    rcases List.mem_cons.1 hm with rfl | hm
    · rfl
    · exact h.2 it hm
  | afterComma r => exact h
  | first | later _ =>
    obtain ⟨it, hm, hq⟩ := h
    exact ⟨it, List.mem_cons_of_mem _ hm, hq⟩

theorem ListPos.next_of_wants {pos : ListPos} (hw : pos.wants = true) :
    pos.next.wants = false ∧ ∀ st : LS, (∃ it ∈ st.items, Item.queryWf it = some true) → pos.next.Known st := by
  cases pos <;> first | exact ⟨rfl, fun _ h => h⟩ | cases hw

theorem ListPos.next_of_not_wants {pos : ListPos} (hw : pos.wants = false) :
    pos.next.wants = true ∧ ∀ st : LS, (∃ f, st.last = some f ∧ f.mayEnd = false) → pos.next.Known st := by
  cases pos <;> first | exact ⟨rfl, fun _ h => h⟩ | cases hw

def ListPos.lang (c : List Text) (g : Bool) (pos : ListPos) : Nat → List Tok → Bool := if pos.wants then lQuery c g else lSep c g

theorem ListPos.lang_cons (g : Bool) (pos : ListPos) (f : Nat) (ts : List Tok) :
    pos.lang c g (f + 1) (t :: ts) =
      if skip t then pos.lang c g f ts else if bad t then false
      else if pos.pred.eval t then
        if pos.wants then
          match sQuery c (t :: ts) with
          | .done w => w
          | .back x r => lSep c g f (x :: r)
          | .lost x r => if g && !r.isEmpty then lSep c g f (x :: r) else lSep c g f r
          | .fail => false
        else lQuery c g f ts
      else false := by
  unfold ListPos.lang ListPos.pred
  cases pos.wants <;> simp [lQuery, lSep]

theorem list_end (g : Bool) (d : Nat) (pos : ListPos) (st : LS) (hI : OInv st) (hst : st.stack = pos.stack) (hk : pos.Known st) :
    verdict (finish (cfgG g g (d + 2)) st []) = !pos.wants := by
  have hall : ∀ it ∈ (rstripRev st.items).reverse, Item.queryWf it ≠ some false :=
    fun it hm => (hI.items it (rstripRev_subset it _ (List.mem_reverse.1 hm))).2
  have hq := allQ_ok _ false hall
  -- the end-of-input walk finds nothing wrong: the verdict is whether a query has been seen
  have hwalk : endLoop st.last st.stack st.wf st.errs = (true, st.errs, .ok) →
      verdict (finish (cfgG g g (d + 2)) st []) = (rstripRev st.items).reverse.any (fun it => Item.queryWf it == some true) := by
    intro he
    simp only [finish, hI.stopall, he, hI.saved, cfgG]
    by_cases hi : st.items.isEmpty = true
    · rw [List.isEmpty_iff.1 hi]
      rfl
    · simp [hi, verdict, hq]
  rw [hst, hI.wf] at hwalk
  cases pos with
  | start =>
    rw [hk.1] at hwalk
    rw [hwalk (by simp only [ListPos.stack]; rw [endLoop_missing_none eL0]; rfl)]
    exact List.any_eq_false.2 fun it hm => by simp [hk.2 it (rstripRev_subset it _ (List.mem_reverse.1 hm))]
  | afterComma r =>
    obtain ⟨f, hf, hm⟩ := hk
    apply verdict_wf_false
    apply finish_wf_of_end_false
    rw [hI.stopall, hst, hf, hI.wf]
    simp only [ListPos.stack, Bool.false_eq_true, if_false]
    rw [endLoop_missing eK1 hm]
    exact endLoop_false
  | first | later _ =>
    obtain ⟨it0, hm0, hq0⟩ := hk
    rw [hwalk (by
      simp only [ListPos.stack]
      first
        | rw [endLoop_skip eL2]
        | rw [endLoop_skip eK0, endLoop_skip eLend]
      rfl)]
    exact List.any_eq_true.2 ⟨it0, List.mem_reverse.2 (rstripRev_keeps it0 (hI.items it0 hm0).1 _ hm0), by simp [hq0]⟩

/-- **The outer engine run on the list grammar, from any position, for any rest of the text**: the verdict is the
    language's.  `f` is the fuel of the recogniser. -/
theorem list_run (g : Bool) (d : Nat) : ∀ (f : Nat) (toks : List Tok) (n : Nat) (st : LS) (pos : ListPos), toks.length + 1 ≤ f →
    toks.length + 1 ≤ n → OInv st → st.stack = pos.stack → (g = true → st.pushed = [] ∨ toks = []) →
    (∀ t ∈ toks, t.kind ≠ .eof) → pos.Known st →
    verdict (loop (listHook c g) (cfgG g g (d + 2)) n st toks) = pos.lang c g f toks := by
  intro f
  induction f with
  | zero => intro toks n st pos h; omega
  | succ f ih =>
    intro toks n st pos hf hn hI hst hp he hk
    obtain ⟨m, rfl⟩ : ∃ m, n = m + 1 := ⟨n - 1, by omega⟩
    cases toks with
    | nil =>
      rw [loop_nil hI.saved hI.filt, list_end g d pos st hI hst hk]
      cases pos <;> rfl
    | cons t ts =>
      have hp' : g = true → st.pushed = [] := fun hg => (hp hg).resolve_right (by simp)
      have hf' : ts.length + 1 ≤ f := by simp at hf; omega
      have hm : ts.length + 1 ≤ m := by simp at hn; omega
      have he' : ∀ t ∈ ts, t.kind ≠ .eof := fun u hu => he u (List.mem_cons_of_mem _ hu)
      rw [loop_cons hI.saved hI.filt hp', ListPos.lang_cons]
      by_cases hc : t.kind = .comment
      · rw [tok_comment hc]
        simp only [skip, hc, beq_self_eq_true, Bool.or_true, if_true]
        refine ih ts m _ pos hf' hm ⟨hI.saved, hI.filt, hI.defaultS, hI.stopall, hI.wf, hI.simm, ?_⟩ hst
          (fun hg => Or.inl (hp' hg)) he' hk.comment
        intro it hm'
        rcases List.mem_cons.1 hm' with rfl | h
        · exact ⟨rfl, by simp [Item.queryWf]⟩
        · exact hI.items it h
      by_cases hs : t.kind = .s
      · rw [tok_space hI.defaultS hs]
        simp only [skip, hs, beq_self_eq_true, Bool.true_or, if_true]
        exact ih ts m st pos hf' hm hI hst (fun hg => Or.inl (hp' hg)) he' hk
      have hsk : skip t = false := by simp [skip, hs, hc]
      by_cases hv : t.kind = .invalid
      · rw [verdict_wf_false _ (tok_invalid hv)]
        simp [hsk, bad, hv]
      have hreal : Real t := ⟨hc, hs, hv, he t (List.mem_cons_self ..)⟩
      have hb : bad t = false := by simp [bad, hv]
      simp only [hsk, hb, Bool.false_eq_true, if_false]
      have hd := descend_listPos t pos d st.last (by simp [pComment, Pred.eval, hc])
      rw [← hst] at hd
      cases hpr : pos.pred.eval t with
      | false =>
        rw [hpr] at hd
        rw [tok_real hreal, verdict_wf_false _ (desc_stops t (cfgG g g (d + 2)) { st with started := true } hI.simm hd)]
        rfl
      | true =>
        rw [hpr] at hd
        simp only [if_true] at hd ⊢
        rw [← loop_cons hI.saved hI.filt hp']
        cases hw : pos.wants with
        | false =>
          obtain ⟨hnw, hnk⟩ := ListPos.next_of_not_wants hw
          simp only [ListPos.prod, hw, Bool.false_eq_true, if_false] at hd
          have hI2 : OInv { st with started := true, stack := pos.next.stack, last := some fComma, defaultS := true } :=
            ⟨hI.saved, hI.filt, rfl, hI.stopall, hI.wf, hI.simm, hI.items⟩
          rw [comma_step t hI hp' hreal hd,
            ih ts m _ pos.next hf' hm hI2 rfl (fun hg => Or.inl (hp' hg)) he' (hnk _ ⟨fComma, rfl, rfl⟩)]
          simp only [ListPos.lang, hnw, Bool.false_eq_true, if_true, if_false]
        | true =>
          -- a query: what follows depends on how the nested parser stopped
          obtain ⟨hnw, hnk⟩ := ListPos.next_of_wants hw
          have hlang : ∀ k toks, lSep c g k toks = pos.next.lang c g k toks := fun _ _ => by
            simp only [ListPos.lang, hnw, Bool.false_eq_true, if_false]
          simp only [ListPos.prod, hw, if_true] at hd
          obtain ⟨r, hok, hout, hloop⟩ := query_step c t m hI hp' hreal hd he
          rw [hloop]
          simp only [if_true, hlang]
          have hin : Item.nested nQuery r.wf r.items ∈ (afterQuery st pos.next.stack r).items := List.mem_cons_self ..
          have hbadv : r.wf = false → verdict (loop (listHook c g) (cfgG g g (d + 2)) m (afterQuery st pos.next.stack r) r.rest) = false :=
            fun hw => verdict_bad _ ⟨_, loop_keeps _ _ _ rfl m _ r.rest hin, by simp [Item.queryWf, hw]⟩
          -- after a well-formed query the loop is at `pos.next`, with whatever the nested parser left in `saved` / `pushed`
          have cont : r.wf = true → ∀ (sv pu : List Tok) (n' : Nat) (toks' : List Tok), sv = [] →
              (g = true → pu = [] ∨ toks' = []) → toks'.length + 1 ≤ f → toks'.length + 1 ≤ n' →
              (∀ u ∈ toks', u.kind ≠ .eof) →
              verdict (loop (listHook c g) (cfgG g g (d + 2)) n' { afterQuery st pos.next.stack r with saved := sv, pushed := pu } toks') =
                pos.next.lang c g f toks' := by
            intro hw sv pu n' toks' hsv hpu hf2 hn2 he2
            refine ih toks' n' _ pos.next hf2 hn2 ⟨hsv, hI.filt, rfl, hI.stopall, hI.wf, hI.simm, fun it hm' => ?_⟩ rfl hpu he2
              (hnk _ ⟨_, hin, by simp [Item.queryWf, hw]⟩)
            rcases List.mem_cons.1 hm' with rfl | h
            · exact ⟨rfl, by simp [Item.queryWf, hw]⟩
            · exact hI.items it h
          have hsuf : ∀ x rest, (sQuery c (t :: ts) = .back x rest ∨ sQuery c (t :: ts) = .lost x rest) →
              rest.length + 1 ≤ ts.length ∧ ∀ u ∈ x :: rest, u.kind ≠ .eof := fun x rest h =>
            have hs := sQuery_suffix c t ts x rest hsk h
            ⟨hs.length_le, fun u hu => he' u (hs.subset hu)⟩
          cases hsq : sQuery c (t :: ts) with
          | done w =>
            rw [hsq] at hout
            obtain ⟨o1, o2, o3, o4⟩ := hout
            cases w with
            | false => exact hbadv o1
            | true =>
              rw [o2]
              refine (cont o1 r.saved r.pushed m [] o3 (fun _ => Or.inr rfl) (by simp; omega) (by simp; omega) (by simp)).trans ?_
              obtain ⟨f', rfl⟩ : ∃ f', f = f' + 1 := ⟨f - 1, by omega⟩
              rw [← hlang]
              rfl
          | back x rest =>
            rw [hsq] at hout
            obtain ⟨o1, o2, o3, o4⟩ := hout
            obtain ⟨hlen, hex⟩ := hsuf x rest (Or.inl hsq)
            obtain ⟨m', rfl⟩ : ∃ m', m = m' + 1 := ⟨m - 1, by omega⟩
            rw [o2, loop_saved (afterQuery st pos.next.stack r) (o3 rfl) hI.filt o4]
            exact cont o1 [] r.pushed (m' + 1) (x :: rest) rfl (fun _ => Or.inl o4) (by simp; omega)
              (by simp; omega) hex
          | lost x rest =>
            rw [hsq] at hout
            obtain ⟨o1, o2, o3, o4⟩ := hout
            obtain ⟨hlen, hex⟩ := hsuf x rest (Or.inr hsq)
            by_cases hgr : (g && !rest.isEmpty) = true
            · simp only [hgr, if_true]
              have hg : g = true := by simp at hgr; exact hgr.1
              have hne : rest ≠ [] := by simp at hgr; exact hgr.2
              subst hg
              obtain ⟨m', rfl⟩ : ∃ m', m = m' + 1 := ⟨m - 1, by omega⟩
              rw [o2, loop_pushed (afterQuery st pos.next.stack r) o3 hI.filt o4 hne]
              exact cont o1 r.saved [] (m' + 1) (x :: rest) o3 (fun _ => Or.inl rfl) (by simp; omega)
                (by simp; omega) hex
            · simp only [hgr]
              rw [o2]
              refine cont o1 r.saved r.pushed m rest o3 (fun hg => Or.inr ?_) (by omega) (by omega)
                (fun u hu => hex u (List.mem_cons_of_mem _ hu))
              cases rest with
              | nil => rfl
              | cons a b => simp [hg] at hgr
          | fail =>
            rw [hsq] at hout
            exact hbadv hout

/-- **Media-query-list correctness.**  For every token list without an EOF token, the verdict of
    `MediaList(text)` (`g = true`) / `MediaList._setMediaText(tokens)` (`g = false`) — the engine running the list
    grammar, every query parsed by a nested engine run on the same token stream — is `listAccepts`. -/
theorem mediaList_correct (g : Bool) (toks : List Tok) (he : ∀ t ∈ toks, t.kind ≠ .eof) :
    (mediaList c g toks).1 = listAccepts c g toks := by
  rw [show (mediaList c g toks).1 = verdict (mediaList c g toks).2 from rfl]
  obtain ⟨d, hd⟩ := dfuelOf_ge listGrammar
  have h : (mediaList c g toks).2 =
      loop (listHook c g) (cfgG g g (dfuelOf listGrammar)) (toks.length + 1) { stack := [fL 0 0 false] } toks := by
    rw [listGrammar_eq]
    rfl
  rw [h, hd]
  exact list_run c g (d + 2) (toks.length + 1) toks _ _ .start (Nat.le_refl _) (Nat.le_refl _)
    ⟨rfl, rfl, rfl, rfl, rfl, rfl, fun it hm => by cases hm⟩ rfl (fun _ => Or.inl rfl) he
    ⟨rfl, fun it hm => by cases hm⟩

/-! ### concrete lists (kernel-evaluated) -/

def tTv : Tok := ident [116, 118]
def tCommaTok : Tok := chr 44

/-- `print, tv` and `print and (width: 1px), tv`: accepted in both modes, and the engine says so -/
example : listAccepts [] true [tPrint, tCommaTok, tTv] = true ∧ (mediaList [] true [tPrint, tCommaTok, tTv]).1 = true ∧
    listAccepts [] false [tPrint, tAndTok, chr 40, tWidth, chr 58, tDim, chr 41, tCommaTok, tTv] = true ∧
    (mediaList [] false [tPrint, tAndTok, chr 40, tWidth, chr 58, tDim, chr 41, tCommaTok, tTv]).1 = true := by decide

/-- `print and , tv`: from a string the comma at which the first query stops quietly comes back (accepted, two
    queries `print and` and `tv`); from a token list it is lost and `tv` is an error.
    `print and ;` is accepted in both modes. -/
example : listAccepts [] true [tPrint, tAndTok, tCommaTok, tTv] = true ∧ listAccepts [] false [tPrint, tAndTok, tCommaTok, tTv] = false ∧
    listAccepts [] true [tPrint, tAndTok, chr 59] = true ∧ listAccepts [] false [tPrint, tAndTok, chr 59] = true := by decide

/-- an unknown media type is accepted only where nothing follows it: `print, foo` but not `foo, print` -/
example : listAccepts [] true [tPrint, tCommaTok, tFoo] = true ∧ listAccepts [] true [tFoo, tCommaTok, tPrint] = false := by decide

/-- from a string the verdict is NOT independent of comments: after `print and ;` a trailing comment makes the
    pushed-back `;` visible -/
example : listAccepts [] true [tPrint, tAndTok, chr 59] = true ∧
    listAccepts [] true [tPrint, tAndTok, chr 59, ⟨.comment, [], []⟩] = false := by decide

/-- empty list, lone comma, trailing comma, missing comma: rejected -/
example : listAccepts [] true [] = false ∧ listAccepts [] true [tCommaTok, tPrint] = false ∧
    listAccepts [] true [tPrint, tCommaTok] = false ∧ listAccepts [] true [tPrint, tTv] = false := by decide

end CssVerif.PP.MQ
