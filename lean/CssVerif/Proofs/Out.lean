import CssVerif.Model.Out
namespace CssVerif.Out

/-- a piece of text that `Out.append` does not treat specially: it is no substring (`isSub w s`: `w` occurs in `s`) of
the delimiter strings, not the line separator, and does not end in a blank.  `a,b` is a word, `,` is not. -/
structure Word (p : Prefs) (w : Text) : Prop where
  nonempty : w.isEmpty = false
  nodelim : isSub w (str "+>~,:{;)]/=}") = false
  noline : (w == p.lineSeparator) = false
  nobrace : (w == str "}") = false
  nospace : (w.getLast? == some 32) = false
  nocomb : isSub w (str "+>~") = false
  noparen : (w == str ")") = false
  nocomma : (w == str ",") = false
  nocolon : (w == str ":") = false
  noopen : (w == str "{") = false
  nosemi : (w == str ";") = false
  nobracket : isSub w (str "}[]()/=") = false

/-- what is written after a word: the spacer, or one blank when the spacer is empty -/
def gapAfter (p : Prefs) : List Text := if p.spacer.isEmpty then [p.spacer, [32]] else [p.spacer]

theorem append_word (p : Prefs) (out : List Text) (w : Text) (hw : Word p w) :
    append p out w .other true false false false = out ++ [w] ++ gapAfter p := by
  obtain ⟨h1, h2, h3, h4, h5, h6, h7, h8, h9, h10, h11, h12⟩ := hw
  cases hs : p.spacer <;> simp [append, gapAfter, h1, h2, h3, h4, h5, h6, h7, h8, h9, h10, h11, h12, hs]

end CssVerif.Out
