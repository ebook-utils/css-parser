import CssVerif.Model.Links
namespace CssVerif.Links

@[simp] theorem get_set_same (st : St) (x : Nat) (o : Obj) : get (set st x o) x = o := by simp [get, set]
@[simp] theorem get_set_other (st : St) (x y : Nat) (o : Obj) (h : y ≠ x) : get (set st x o) y = get st y := by
  simp [get, set, h]
@[simp] theorem get_top (st : St) (l : List Nat) (x : Nat) : get { st with top := l } x = get st x := rfl

/-- a containment chain from a rule of the sheet (no parent rule, `_parentStyleSheet` the sheet, id 0) down to
the last element, every further element naming its predecessor as parent rule -/
inductive Chain (st : St) : List Nat → Prop
  | top (x : Nat) : (get st x).pr = none → (get st x).raw = some 0 → Chain st [x]
  | nest (l : List Nat) (p x : Nat) : Chain st (l ++ [p]) → (get st x).pr = some p → Chain st (l ++ [p, x])

/-- **the derived getter (`fx = true`) finds the sheet at any depth** -/
theorem getter_chain (st : St) (l : List Nat) (h : Chain st l) :
    ∀ x, l.getLast? = some x → ∀ fuel, l.length ≤ fuel → parentStyleSheet true st fuel x = some 0 := by
  induction h with
  | top x hp hr =>
    intro y hy fuel hf
    simp at hy; subst hy
    cases fuel with
    | zero => simp at hf
    | succ f => simp [parentStyleSheet, hp, hr]
  | nest l p x _ hp ih =>
    intro y hy fuel hf
    have : y = x := by simpa using hy.symm
    subst this
    cases fuel with
    | zero => simp at hf
    | succ f =>
      simp only [parentStyleSheet, hp, if_true]
      exact ih p (by simp) f (by simp at hf ⊢; omega)

/-- the pinned snapshot: one level up only — a rule two containers deep (raw field of its parent cleared by
the container's insertRule) reported no sheet -/
theorem snapshot_counterexample :
    let st : St := step (step (step {} (.insTop 0 1)) (.insIn 1 0 2)) (.insIn 2 0 3)
    parentStyleSheet false st 5 3 = none ∧ parentStyleSheet true st 5 3 = some 0 ∧
    parentStyleSheet false st 5 2 = some 0 := by decide +kernel

/-! ### the operations keep every chain that does not go through the rule they move, and link that rule -/

theorem chain_frame (st st' : St) (l : List Nat) (h : Chain st l)
    (hf : ∀ y ∈ l, (get st' y).pr = (get st y).pr ∧ (get st' y).raw = (get st y).raw) : Chain st' l := by
  induction h with
  | top x hp hr =>
    have := hf x (by simp)
    exact .top x (this.1.trans hp) (this.2.trans hr)
  | nest l p x _ hp ih =>
    refine .nest l p x (ih (fun y hy => hf y ?_)) ((hf x (by simp)).1.trans hp)
    simp only [List.mem_append, List.mem_cons, List.not_mem_nil, or_false] at hy ⊢
    rcases hy with hy | hy
    · exact Or.inl hy
    · exact Or.inr (Or.inl hy)

theorem insertTop_fields (st : St) (i r y : Nat) :
    (get (insertTop st i r) y).pr = (get st y).pr ∧
    (get (insertTop st i r) y).raw = if y = r then some 0 else (get st y).raw := by
  by_cases h : y = r
  · subst h; simp [insertTop]
  · simp [insertTop, h]

theorem insertIn_fields (st : St) (c i r y : Nat) :
    (get (insertIn st c i r) y).pr = (if y = r then some c else (get st y).pr) ∧
    (get (insertIn st c i r) y).raw = (if y = r then none else (get st y).raw) := by
  by_cases h : y = r
  · subst h
    by_cases hc : y = c
    · subst hc; simp [insertIn]
    · simp [insertIn, hc]
  · by_cases hc : y = c
    · subst hc; simp [insertIn, h]
    · simp [insertIn, h, hc]

theorem insertIn_frame (st : St) (l : List Nat) (c i r : Nat) (h : Chain st l) (hr : r ∉ l) :
    Chain (insertIn st c i r) l := by
  refine chain_frame st _ _ h fun y hy => ?_
  have hyr : y ≠ r := fun e => hr (e ▸ hy)
  have := insertIn_fields st c i r y
  simp only [hyr, if_false] at this
  exact this

theorem insertIn_chain (st : St) (l : List Nat) (c i r : Nat) (h : Chain st (l ++ [c])) (hr : r ∉ l ++ [c]) :
    Chain (insertIn st c i r) (l ++ [c, r]) :=
  .nest l c r (insertIn_frame st _ c i r h hr) (by simp [(insertIn_fields st c i r r).1])

end CssVerif.Links
