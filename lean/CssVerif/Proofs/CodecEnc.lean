/-
Idempotence of the `@charset` rewrite; chunking invariance of the incremental ENCODER of the css
codec and its agreement with the one-shot `encode`, whose two branches end in `encodeWith`.
-/
import CssVerif.Proofs.Codec
namespace CssVerif.Codec

attribute [local irreducible] charsetPrefix utf8

/-- what the css codec assumes of Python's own incremental encoders (the analogue of `DecLaw`) -/
structure EncLaw (I : Inner) : Prop where
  split : ∀ (e : I.E) (a b : Text) (f : Bool) (o1 : Bytes) (e1 : I.E),
    I.enc e a false = some (o1, e1) →
      I.enc e (a ++ b) f = (I.enc e1 b f).map (fun r => (o1 ++ r.1, r.2))
  fail : ∀ (e : I.E) (a b : Text) (f : Bool), I.enc e a false = none → I.enc e (a ++ b) f = none

theorem fix_cases (p e t : Text) (f : Bool) (h : fixEncoding p e f = some t) :
    (t = p ∧ ∀ e2, fixEncoding p e2 f = some p) ∨ ∃ rest, t = charsetPrefix ++ written e ++ 34 :: rest := by
  rcases head_cases p with ⟨n, rest, rfl, hq⟩ | ⟨s, rfl, hq⟩ | hp
  · rw [fix_head n rest e f hq] at h
    exact .inr ⟨rest, (Option.some.inj h).symm⟩
  · rw [fix_open s e f hq] at h
    cases f <;> simp at h
    exact .inl ⟨h.symm, fun e2 => by rw [fix_open s e2 true hq]; rfl⟩
  · rw [fix_nohead p e f hp] at h
    split at h <;> simp at h
    rename_i hc
    exact .inl ⟨h.symm, fun e2 => by rw [fix_nohead p e2 f hp, if_pos hc]⟩

theorem fix_idem (p e e2 t : Text) (f : Bool) (h : fixEncoding p e f = some t)
    (hq : ∀ c ∈ written e, c ≠ 34) (he : written e2 = written e) : fixEncoding t e2 f = some t := by
  rcases fix_cases p e t f h with ⟨ht, hall⟩ | ⟨rest, ht⟩
  · rw [ht]; exact hall e2
  · rw [ht, fix_head (written e) rest e2 f hq, he]

/-- without the hypothesis the second fix finds the quote inside the name -/
example : fixEncoding (ofStr "@charset \"x\";") (ofStr "a\"b") true = some (ofStr "@charset \"a\"b\";") ∧
    fixEncoding (ofStr "@charset \"a\"b\";") (ofStr "a\"b") true = some (ofStr "@charset \"a\"b\"b\";") := by
  decide +kernel

theorem utf8_noquote : ∀ c ∈ utf8, c ≠ 34 := by decide +kernel

theorem written_utf8 : written utf8 = utf8 := by decide +kernel

theorem written_sig {e : Text} (h : isUtf8Sig e = true) : written e = utf8 := by
  simp [written, h]

theorem sig_isSig : isUtf8Sig (ofStr "utf-8-sig") = true := by decide +kernel

theorem fix_sig_idem (p e t : Text) (f : Bool) (h : fixEncoding p e f = some t) (hs : isUtf8Sig e = true) :
    fixEncoding t utf8 f = some t := by
  apply fix_idem p e utf8 t f h
  · rw [written_sig hs]; exact utf8_noquote
  · rw [written_sig hs, written_utf8]

/-- the result has a quote after the prefix, wherever the first one is -/
theorem fix_decided (p e e2 t : Text) (h : fixEncoding p e false = some t) :
    (fixEncoding t e2 false).isSome = true := by
  rcases fix_cases p e t false h with ⟨ht, hall⟩ | ⟨rest, ht⟩
  · rw [ht, hall e2]; rfl
  · obtain ⟨n, r, hs, hq⟩ := (quote_split (written e ++ 34 :: rest)).resolve_left fun h => h 34 (by simp) rfl
    rw [ht, List.append_assoc, hs, ← List.append_assoc, fix_head n r e2 false hq]
    rfl

/-- what `encStep` does once the encoding `e` and the (header-fixed) text `t` are known -/
def encStart (I : Inner) (e : Text) (t : Text) (final : Bool) : Except CErr (Bytes × EncSt I) :=
  if isCss e then .error .value
  else if !I.known e then .error .lookup
  else encStep I { encoder := some (I.einit e), encoding := some e, buf := [] }
    (if isUtf8Sig e then (fixEncoding t utf8 true).getD t else t) final

section equations
variable {I : Inner} {st : EncSt I} {e x : Text} {f : Bool}

theorem encStep_running {e0 : I.E} (x : Text) (f : Bool) (hd : st.encoder = some e0) :
    encStep I st x f =
      match I.enc e0 x f with
      | none => .error .unicode
      | some (b, e') => .ok (b, { st with encoder := some e' }) := by
  simp only [encStep, hd]
  cases I.enc e0 x f <;> rfl

theorem encStep_explicit_wait (hd : st.encoder = none) (he : st.encoding = some e)
    (hfix : fixEncoding (st.buf ++ x) e f = none) :
    encStep I st x f = .ok ([], { st with buf := st.buf ++ x }) := by
  simp only [encStep, hd, he, hfix]

theorem encStep_explicit_go {t : Text} (hd : st.encoder = none) (he : st.encoding = some e)
    (hfix : fixEncoding (st.buf ++ x) e f = some t) :
    encStep I st x f = encStart I e t f := by
  simp only [encStep, encStart, hd, he, hfix]

theorem encStep_detect_wait (hd : st.encoder = none) (he : st.encoding = none)
    (hdet : (detectUnicode (st.buf ++ x) false).1 = none) :
    encStep I st x false = .ok ([], { st with buf := st.buf ++ x }) := by
  simp only [encStep, hd, he, hdet, Bool.false_eq_true, if_false]

theorem encStep_detect_go (hd : st.encoder = none) (he : st.encoding = none)
    (hdet : (detectUnicode (st.buf ++ x) f).1 = some e) :
    encStep I st x f = encStart I e (st.buf ++ x) f := by
  simp only [encStep, encStart, hd, he, hdet]

theorem encStep_detect_final (hd : st.encoder = none) (he : st.encoding = none)
    (hdet : (detectUnicode (st.buf ++ x) true).1 = none) :
    encStep I st x true = encStart I utf8 (st.buf ++ x) true := by
  simp only [encStep, encStart, hd, he, hdet, if_true]

end equations

def twoEncSteps (I : Inner) (st : EncSt I) (a b : Text) (f : Bool) : Except CErr (Bytes × EncSt I) :=
  match encStep I st a false with
  | .error e => .error e
  | .ok (o1, st1) =>
    match encStep I st1 b f with
    | .error e => .error e
    | .ok (o2, st2) => .ok (o1 ++ o2, st2)

theorem twoEncSteps_eq_andThen (I : Inner) (st : EncSt I) (a b : Text) (f : Bool) :
    twoEncSteps I st a b f = andThen (encStep I st a false) (encStep I · b f) := by
  rw [twoEncSteps, andThen.eq_def]
  cases encStep I st a false with
  | error e => rfl
  | ok r =>
    obtain ⟨o, s⟩ := r
    dsimp only
    cases encStep I s b f <;> rfl

theorem encRun_merge {I : Inner} (law : EncLaw I) {st : EncSt I} {e0 : I.E} (hd : st.encoder = some e0)
    (a b : Text) (f : Bool) : andThen (encStep I st a false) (encStep I · b f) = encStep I st (a ++ b) f := by
  rw [encStep_running a false hd, encStep_running (a ++ b) f hd]
  cases h1 : I.enc e0 a false with
  | none => rw [law.fail _ a b f h1]; rfl
  | some r =>
    obtain ⟨o1, e1⟩ := r
    rw [law.split _ a b f o1 e1 h1]
    simp only [andThen, encStep_running b f (st := { st with encoder := some e1 }) rfl]
    cases I.enc e1 b f <;> rfl

/-- `hfx`: the second fix of `t` (done for `utf-8-sig` only) is already decided -/
theorem encStart_merge {I : Inner} (law : EncLaw I) (e t b : Text) (f : Bool)
    (hfx : isUtf8Sig e = true → (fixEncoding t utf8 false).isSome = true) :
    andThen (encStart I e t false) (encStep I · b f) = encStart I e (t ++ b) f := by
  -- the text handed to the inner encoder
  obtain ⟨T, hT1, hT2⟩ : ∃ T, (if isUtf8Sig e then (fixEncoding t utf8 true).getD t else t) = T ∧
      (if isUtf8Sig e then (fixEncoding (t ++ b) utf8 true).getD (t ++ b) else t ++ b) = T ++ b := by
    cases hs : isUtf8Sig e with
    | false => exact ⟨t, rfl, rfl⟩
    | true =>
      obtain ⟨t2, hfix⟩ := Option.isSome_iff_exists.mp (hfx hs)
      have h1 := fix_stable t [] utf8 true t2 hfix
      rw [List.append_nil] at h1
      exact ⟨t2, by simp [h1], by simp [fix_stable t b utf8 true t2 hfix]⟩
  simp only [encStart, hT1, hT2]
  cases isCss e with
  | true => rfl
  | false =>
    cases I.known e with
    | false => rfl
    | true => exact encRun_merge law (st := ⟨some (I.einit e), some e, []⟩) rfl T b f

theorem twoEncSteps_eq {I : Inner} (law : EncLaw I) (st : EncSt I) (a b : Text) (f : Bool) :
    twoEncSteps I st a b f = encStep I st (a ++ b) f := by
  rw [twoEncSteps_eq_andThen]
  -- a chunk that only goes into the buffer: the next step sees `buf ++ a ++ b` like the single step
  have buffered : st.encoder = none → encStep I st a false = .ok ([], { st with buf := st.buf ++ a }) →
      andThen (encStep I st a false) (encStep I · b f) = encStep I st (a ++ b) f := by
    intro hd h
    rw [h, andThen_nil]
    simp only [encStep, hd, List.append_assoc]
  cases hd : st.encoder with
  | some e0 => exact encRun_merge law hd a b f
  | none =>
    cases he : st.encoding with
    | some e =>
      cases hfix : fixEncoding (st.buf ++ a) e false with
      | none => exact buffered hd (encStep_explicit_wait hd he hfix)
      | some t =>
        have hst := fix_stable (st.buf ++ a) b e f t hfix
        rw [List.append_assoc] at hst
        rw [encStep_explicit_go hd he hfix, encStep_explicit_go hd he hst]
        exact encStart_merge law e t b f (fun _ => fix_decided _ e utf8 t hfix)
    | none =>
      cases hdet : (detectUnicode (st.buf ++ a) false).1 with
      | none => exact buffered hd (encStep_detect_wait hd he hdet)
      | some e =>
        have hs : (detectUnicode (st.buf ++ a) false).1.isSome := by rw [hdet]; rfl
        have hdet2 : (detectUnicode (st.buf ++ (a ++ b)) f).1 = some e := by
          rw [← List.append_assoc, detectU_stable (st.buf ++ a) b f hs, hdet]
        rw [encStep_detect_go hd he hdet, encStep_detect_go hd he hdet2, ← List.append_assoc]
        exact encStart_merge law e (st.buf ++ a) b f (fun _ => detectU_fix _ utf8 hs)

theorem encFeed_eq {I : Inner} (law : EncLaw I) :
    ∀ (cs : List Text) (st : EncSt I), encFeed I st cs = encStep I st cs.flatten true
  | [], _ => rfl
  | c :: cs, st => by
    rw [List.flatten_cons, ← twoEncSteps_eq law, encFeed, twoEncSteps]
    cases encStep I st c false with
    | error e => rfl
    | ok r =>
      obtain ⟨o, st'⟩ := r
      simp only [encFeed_eq law cs st']
      cases encStep I st' cs.flatten true <;> rfl

/-- what both branches of `encode` end in (the twin of the model's `decodeWith`) -/
def encodeWith (I : Inner) (e T : Text) : Except CErr Bytes :=
  if isCss e then .error .value
  else if !I.known e then .error .lookup
  else match I.encodeAll e T with | none => .error .unicode | some b => .ok b

def chosenEnc (t : Text) : Text := (detectUnicode t true).1.getD utf8

theorem encode_some_eq (I : Inner) (t e : Text) :
    encode I t (some e) = encodeWith I e ((fixEncoding t e true).getD t) := rfl

theorem encode_none_eq (I : Inner) (t : Text) :
    encode I t none =
      encodeWith I (chosenEnc t) (if isUtf8Sig (chosenEnc t) then (fixEncoding t utf8 true).getD t else t) := rfl

theorem encodeWith_ok {I : Inner} {e T : Text} {b : Bytes} (h : encodeWith I e T = .ok b) :
    isCss e = false ∧ I.known e = true ∧ I.encodeAll e T = some b := by
  unfold encodeWith at h
  cases hcss : isCss e with
  | true => simp [hcss] at h
  | false =>
    cases hk : I.known e with
    | false => simp [hcss, hk] at h
    | true =>
      simp only [hcss, hk, Bool.not_true, Bool.false_eq_true, if_false] at h
      cases henc : I.encodeAll e T with
      | none => simp [henc] at h
      | some b' =>
        rw [henc] at h
        exact ⟨rfl, rfl, congrArg some (Except.ok.inj h)⟩

theorem encStart_oneshot (I : Inner) (e t : Text) :
    (encStart I e t true).map (·.1) =
      encodeWith I e (if isUtf8Sig e then (fixEncoding t utf8 true).getD t else t) := by
  unfold encStart encodeWith Inner.encodeAll
  cases isCss e with
  | true => rfl
  | false =>
    cases I.known e with
    | false => rfl
    | true =>
      simp only [Bool.not_true, Bool.false_eq_true, if_false, encStep]
      cases I.enc (I.einit e) (if isUtf8Sig e = true then (fixEncoding t utf8 true).getD t else t) true <;> rfl

theorem encStep_oneshot (I : Inner) (all : Text) (enc : Option Text) :
    (encStep I (encInit I enc) all true).map (·.1) = encode I all enc := by
  cases enc with
  | some e =>
    obtain ⟨t, hfix⟩ := Option.isSome_iff_exists.mp (fix_final all e)
    rw [encStep_explicit_go (st := encInit I (some e)) (x := all) rfl rfl hfix, encStart_oneshot I e t,
      encode_some_eq, hfix]
    cases hs : isUtf8Sig e with
    | false => rfl
    | true => simp [fix_sig_idem all e t true hfix hs]
  | none =>
    rw [encode_none_eq, chosenEnc]
    cases hdet : (detectUnicode all true).1 with
    | some e =>
      rw [encStep_detect_go (st := encInit I none) (x := all) rfl rfl hdet, encStart_oneshot I e]
      rfl
    | none =>
      rw [encStep_detect_final (st := encInit I none) (x := all) rfl rfl hdet, encStart_oneshot I utf8]
      rfl

end CssVerif.Codec
