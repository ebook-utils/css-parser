/-
What `wBlock`, `wMargins`, `wRule` and `wRules` of `Model/Omit.lean` write, for all preference settings: a sublist at
every level (`RuleSub`), every deletion with a reason (`RuleDoc`, `RuleReason`), stability when written again,
the used uris, `written` as two steps (`stripRule`, `pruneRule`), one declaration per name.  Each statement comes as a
pair: for a rule and for a list of rules, proved together by recursion over the rule tree.
-/
import CssVerif.Model.Omit
namespace CssVerif.Omit

/-- the nested at-rules of a block -/
def nAt : List Item → Nat
  | [] => 0
  | .atrule :: b => nAt b + 1
  | _ :: b => nAt b

/-- the hypothesis under which "empty" is "nothing of it is written": nested at-rules are kept, or lineSeparator is
the empty string (as useMinified sets it) -/
def NoSepQuirk (p : Prefs) : Prop := p.keepUnknownAtRules = true ∨ p.lineSep = false

/-! ### declaration blocks and margin boxes: what is written of them, and when a block counts as empty -/

theorem any_false_of_subset {α} {f : α → Bool} {l l' : List α} (h : l' ⊆ l) (h' : l.any f = false) :
    l'.any f = false :=
  List.any_eq_false.mpr fun y hy => List.any_eq_false.mp h' y (h hy)

/-- an item that is written stays so when items before or after it are taken away: being effective only gets easier -/
theorem kept_mono (p : Prefs) {pre pre' post post' : List Item} (x : Item)
    (h1 : pre' ⊆ pre) (h2 : post' ⊆ post) (h : kept p pre post x = true) : kept p pre' post' x = true := by
  cases x with
  | decl n i v =>
    simp only [kept, inSeq, Bool.and_eq_true, Bool.or_eq_true] at h ⊢
    refine ⟨h.1.imp_right fun he => ?_, h.2⟩
    unfold effective at he ⊢
    cases i with
    | true =>
      simp only [if_true, Bool.not_eq_true'] at he ⊢
      exact any_false_of_subset h2 he
    | false =>
      simp only [Bool.false_eq_true, if_false, Bool.and_eq_true, Bool.not_eq_true'] at he ⊢
      exact ⟨any_false_of_subset h2 he.1, any_false_of_subset h1 he.2⟩
  | _ => exact h

theorem wItems_sublist (p : Prefs) : ∀ (b pre : List Item), (wItems p pre b).Sublist b
  | [], _ => .slnil
  | x :: post, pre => by
    unfold wItems
    split
    · exact (wItems_sublist p post _).cons_cons x
    · exact (wItems_sublist p post _).cons x

theorem wBlock_sublist (p : Prefs) (b : Block) : (wBlock p b).Sublist b := wItems_sublist p b []

theorem wItems_idem (p : Prefs) : ∀ (b pre pre' : List Item), pre' ⊆ pre →
    wItems p pre' (wItems p pre b) = wItems p pre b
  | [], _, _, _ => rfl
  | x :: post, pre, pre', h => by
    rw [wItems]
    split
    · next hk =>
      have hsub : pre' ++ [x] ⊆ pre ++ [x] :=
        List.append_subset.mpr ⟨List.subset_append_of_subset_left _ h, List.subset_append_right _ _⟩
      rw [wItems, if_pos (kept_mono p x h (wItems_sublist p post _).subset hk), wItems_idem p post _ _ hsub]
    · exact wItems_idem p post _ _ (List.subset_append_of_subset_left _ h)

theorem wBlock_idem (p : Prefs) (b : Block) : wBlock p (wBlock p b) = wBlock p b :=
  wItems_idem p b [] [] (fun _ h => h)

theorem wItems_keepAll (p : Prefs) (h : p.keepAllProperties = true) : ∀ (b pre : List Item),
    wItems p pre b = b.filter (writes p)
  | [], _ => rfl
  | x :: post, pre => by
    have hk : kept p pre post x = writes p x := by
      unfold kept
      cases x <;> simp [inSeq, h]
    rw [wItems, hk, List.filter_cons, wItems_keepAll p h post]

theorem wBlock_keepAll (p : Prefs) (h : p.keepAllProperties = true) {f : Item → Bool} (hf : ∀ x, writes p x = f x)
    (b : Block) : wBlock p b = b.filter f := by
  rw [wBlock, wItems_keepAll p h, funext hf]

theorem wBlock_keep (p : Prefs) (h1 : p.keepAllProperties = true) (h2 : p.keepComments = true)
    (h3 : p.keepUnknownAtRules = true) (h4 : p.validOnly = false) (b : Block) : wBlock p b = b := by
  rw [wBlock, wItems_keepAll p h1, List.filter_eq_self]
  intro x _
  cases x <;> simp [writes, h2, h3, h4]

/-- the texts of one item: one that is not empty when the item is written; the empty text of a nested at-rule that
is not -/
theorem texts_cons (p : Prefs) (pre post : List Item) (x : Item) : texts p pre (x :: post) =
    (if kept p pre post x then [true] else if x = .atrule then [false] else []) ++ texts p (pre ++ [x]) post := by
  rw [texts]
  congr 1
  cases x with
  | atrule => simp [kept, inSeq, writes, textOf]; cases p.keepUnknownAtRules <;> rfl
  | comment => simp [kept, inSeq, writes, textOf]
  | decl n i v => cases h : inSeq p pre post (.decl n i v) <;> simp [kept, h, writes, textOf]

theorem texts_any (p : Prefs) : ∀ (b pre : List Item), (texts p pre b).any id = !(wItems p pre b).isEmpty
  | [], _ => rfl
  | x :: post, pre => by
    rw [texts_cons, wItems, List.any_append, texts_any p post]
    cases kept p pre post x
    · split <;> simp
    · rfl

theorem kept_atrule (p : Prefs) (pre post : List Item) : kept p pre post .atrule = p.keepUnknownAtRules := rfl

theorem texts_length (p : Prefs) : ∀ (b pre : List Item),
    (texts p pre b).length = (wItems p pre b).length + if p.keepUnknownAtRules then 0 else nAt b
  | [], _ => by cases p.keepUnknownAtRules <;> rfl
  | x :: post, pre => by
    rw [texts_cons, wItems, List.length_append, texts_length p post, Nat.add_comm, Nat.add_assoc]
    cases x with
    | atrule => rw [kept_atrule, nAt]; cases p.keepUnknownAtRules <;> rfl
    | _ =>
      simp only [nAt]
      generalize kept p pre post _ = k
      cases k with
      | true => exact (Nat.succ_add _ _).symm
      | false => rfl

theorem nAt_le_wItems (p : Prefs) (h : p.keepUnknownAtRules = true) : ∀ (b pre : List Item),
    nAt b ≤ (wItems p pre b).length
  | [], _ => Nat.le_refl 0
  | x :: post, pre => by
    have ih := nAt_le_wItems p h post (pre ++ [x])
    rw [wItems]
    cases x with
    | atrule => rw [kept_atrule, h, if_pos rfl]; exact Nat.succ_le_succ ih
    | _ =>
      simp only [nAt]
      generalize kept p pre post _ = k
      cases k with
      | true => exact Nat.le_succ_of_le ih
      | false => exact ih

/-- the code's notion of a block that is not empty: something of it is written, or - a quirk - at least two nested
at-rules that are not written stand in it and lineSeparator is not the empty string -/
theorem blockText_eq (p : Prefs) (b : Block) : blockText p b =
    (!(wBlock p b).isEmpty || (p.lineSep && !p.keepUnknownAtRules && decide (2 ≤ nAt b))) := by
  unfold blockText wBlock
  simp only
  rw [texts_any, texts_length]
  cases wItems p [] b with
  | cons _ _ => rfl
  | nil => cases p.keepUnknownAtRules <;> simp

theorem blockText_plain (p : Prefs) (hA : NoSepQuirk p) (b : Block) : blockText p b = !(wBlock p b).isEmpty := by
  rw [blockText_eq]
  rcases hA with h | h <;> simp [h]

theorem blockText_nil (p : Prefs) : blockText p [] = false := by simp [blockText, texts]

theorem blockText_wBlock (p : Prefs) (hA : NoSepQuirk p) (b : Block) : blockText p (wBlock p b) = blockText p b := by
  rw [blockText_plain p hA, blockText_plain p hA, wBlock_idem]

theorem wBlock_default (b : Block) : wBlock {} b = b := wBlock_keep {} rfl rfl rfl rfl b

theorem blockText_mono_default {p : Prefs} {b : Block} (h : blockText p b = true) : blockText {} b = true := by
  rw [blockText_plain {} (Or.inl rfl), wBlock_default]
  cases b with
  | nil => rw [blockText_nil] at h; cases h
  | cons _ _ => rfl

theorem wMargins_idem (p : Prefs) (hA : NoSepQuirk p) : ∀ ms, wMargins p (wMargins p ms) = wMargins p ms
  | [] => rfl
  | m :: ms => by
    rw [wMargins]
    split
    · next h => rw [wMargins, blockText_wBlock p hA, if_pos h, wBlock_idem, wMargins_idem p hA ms]
    · exact wMargins_idem p hA ms

theorem wMargins_eq (p : Prefs) (hA : NoSepQuirk p) : ∀ ms,
    wMargins p ms = (ms.map (wBlock p)).filter (fun m => !m.isEmpty)
  | [] => rfl
  | m :: ms => by
    rw [wMargins, List.map_cons, List.filter_cons, blockText_plain p hA, wMargins_eq p hA ms]

/-! ### keepAllProperties off: one declaration per name, the effective one -/

theorem wItems_any_cons (p : Prefs) (f : Item → Bool) (pre post : List Item) (x : Item) :
    (wItems p pre (x :: post)).any f = ((kept p pre post x && f x) || (wItems p (pre ++ [x]) post).any f) := by
  rw [wItems]
  cases kept p pre post x <;> simp

/-- after a declaration of `n` with a priority only declarations of `n` with a priority can be written: if `post` has
none, none of `n` is written from it -/
theorem wItems_none_after_imp (p : Prefs) (hk : p.keepAllProperties = false) (n : Nat) : ∀ (post pre : List Item),
    pre.any (isImpNamed n) = true → post.any (isImpNamed n) = false → (wItems p pre post).any (isNamed n) = false
  | [], _, _, _ => rfl
  | x :: post, pre, h1, h2 => by
    rw [List.any_cons, Bool.or_eq_false_iff] at h2
    rw [wItems_any_cons, wItems_none_after_imp p hk n post (pre ++ [x]) (by rw [List.any_append, h1]; rfl) h2.2,
      Bool.or_false, Bool.and_eq_false_iff]
    cases x with
    | decl m i v =>
      cases i with
      | true => exact Or.inr (by simpa [isImpNamed, isNamed] using h2.1)
      | false =>
        cases hm : isNamed n (.decl m false v) with
        | false => exact Or.inr rfl
        | true =>
          obtain rfl : m = n := by simpa [isNamed] using hm
          exact Or.inl (by simp [kept, inSeq, hk, effective, h1])
    | _ => exact Or.inr rfl

theorem wItems_none_after_kept (p : Prefs) (hk : p.keepAllProperties = false) {pre post : List Item} {n : Nat}
    {i v : Bool} (h : kept p pre post (.decl n i v) = true) :
    (wItems p (pre ++ [.decl n i v]) post).any (isNamed n) = false := by
  have he : effective pre post n i = true := by
    simp only [kept, inSeq, hk, Bool.false_or, Bool.and_eq_true] at h
    exact h.1
  cases i with
  | true => exact wItems_none_after_imp p hk n post _ (by simp [isImpNamed]) ((Bool.not_eq_true' _).mp he)
  | false =>
    have he' : (!post.any (isNamed n)) = true := (Bool.and_eq_true_iff.mp he).1
    exact any_false_of_subset (wItems_sublist p post _).subset ((Bool.not_eq_true' _).mp he')

theorem at_most_one_per_name (p : Prefs) (hk : p.keepAllProperties = false) (n : Nat) : ∀ (b pre : List Item),
    ((wItems p pre b).filter (isNamed n)).length ≤ 1
  | [], _ => Nat.zero_le 1
  | x :: post, pre => by
    have ih := at_most_one_per_name p hk n post (pre ++ [x])
    rw [wItems]
    split
    · next hkept =>
      rw [List.filter_cons]
      split
      · next hn =>
        cases x with
        | decl m i v =>
          obtain rfl : m = n := by simpa [isNamed] using hn
          rw [List.filter_eq_nil_iff.mpr (List.any_eq_false.mp (wItems_none_after_kept p hk hkept))]
          exact Nat.le_refl 1
        | _ => cases hn
      · exact ih
    · exact ih

theorem wItems_any_of_imp (p : Prefs) (hv : p.validOnly = false) (n : Nat) :
    ∀ (post pre : List Item), post.any (isImpNamed n) = true → (wItems p pre post).any (isNamed n) = true
  | [], _, h => nomatch h
  | x :: post, pre, h => by
    rw [wItems_any_cons, Bool.or_eq_true]
    cases hp : post.any (isImpNamed n) with
    | true => exact Or.inr (wItems_any_of_imp p hv n post _ hp)
    | false =>
      rw [List.any_cons, hp, Bool.or_false] at h
      cases x with
      | decl m i v =>
        obtain ⟨rfl, rfl⟩ : m = n ∧ i = true := by simpa [isImpNamed] using h
        exact Or.inl (by simp [kept, inSeq, writes, effective, hv, hp, isNamed])
      | _ => cases h

/-- invalid declarations being written, every name keeps a declaration: the last one, if none has a priority -/
theorem at_least_one_per_name (p : Prefs) (hv : p.validOnly = false) (n : Nat) :
    ∀ (post pre : List Item), pre.any (isImpNamed n) = false → post.any (isNamed n) = true →
    (wItems p pre post).any (isNamed n) = true
  | [], _, _, h => nomatch h
  | x :: post, pre, h1, h2 => by
    cases hi : (x :: post).any (isImpNamed n) with
    | true => exact wItems_any_of_imp p hv n _ pre hi
    | false =>
      rw [List.any_cons, Bool.or_eq_false_iff] at hi
      rw [wItems_any_cons, Bool.or_eq_true]
      cases hp : post.any (isNamed n) with
      | true =>
        exact Or.inr (at_least_one_per_name p hv n post _ (by simp [List.any_append, h1, hi.1]) hp)
      | false =>
        rw [List.any_cons, hp, Bool.or_false] at h2
        cases x with
        | decl m i v =>
          obtain rfl : m = n := by simpa [isNamed] using h2
          obtain rfl : i = false := by simpa [isImpNamed] using hi.1
          exact Or.inl (by simp [kept, inSeq, writes, effective, hv, hp, h1, isNamed])
        | _ => cases h2

/-! ### rules: how `wRule` and `wRules` compute -/

theorem wRule_inv {p : Prefs} {U : List Nat} {top : Bool} {r r' : Rule} : wRule p U top r = some r' →
    match r with
    | .style u b => (blockText p b || p.keepEmptyRules) = true ∧ r' = .style u (wBlock p b)
    | .media ks => (!(wRules p U false ks).isEmpty || p.keepEmptyRules) = true ∧ r' = .media (wRules p U false ks)
    | .page b ms => (blockText p b || !(wMargins p ms).isEmpty) = true ∧ r' = .page (wBlock p b) (wMargins p ms)
    | .fontface b => blockText p b = true ∧ r' = .fontface (wBlock p b)
    | r => r' = r := by
  intro h
  cases r with
  | style _ _ | media _ | page _ _ | fontface _ => exact (Option.ite_some_none_eq_some.mp h).imp_right Eq.symm
  | comment | unknown => exact (Option.ite_some_none_eq_some.mp h).2.symm
  | charset | imp => exact (Option.some.inj h).symm
  | ns u d => exact (Option.some.inj (Option.ite_none_left_eq_some.mp h).2).symm

theorem nsOmitted_iff {p : Prefs} {U : List Nat} {top : Bool} {u : Nat} {d : Bool} : nsOmitted p U top u d = true ↔
    top = true ∧ p.keepUsedNamespaceRulesOnly = true ∧ u ∉ U ∧ (d = false ∨ 0 ∉ U) := by
  simp [nsOmitted, and_assoc]

theorem wRules_eq_filterMap (p : Prefs) (U : List Nat) (top : Bool) : ∀ rs : List Rule,
    wRules p U top rs = rs.filterMap (wRule p U top)
  | [] => rfl
  | r :: rs => by
    rw [wRules, List.filterMap_cons, wRules_eq_filterMap p U top rs]
    cases wRule p U top r <;> rfl

/-! ### rules: what is written is written again -/

theorem nsOmitted_anti {p : Prefs} {U U' : List Nat} {top : Bool} {u : Nat} {d : Bool}
    (hU : p.keepUsedNamespaceRulesOnly = false ∨ U ⊆ U')
    (h : nsOmitted p U' top u d = true) : nsOmitted p U top u d = true := by
  obtain ⟨ht, hk, hu, hd⟩ := nsOmitted_iff.mp h
  have hU := hU.resolve_left (by simp [hk])
  exact nsOmitted_iff.mpr ⟨ht, hk, fun hin => hu (hU hin), hd.imp_right fun h0 hin => h0 (hU hin)⟩

mutual
theorem wRule_stable (p : Prefs) (U U' : List Nat) (hA : NoSepQuirk p)
    (hU : p.keepUsedNamespaceRulesOnly = false ∨ ∀ v, v ∈ U → v ∈ U') :
    ∀ (top : Bool) (r r' : Rule), wRule p U top r = some r' → wRule p U' top r' = some r' := by
  intro top r r' h
  cases r with
  | ns u d =>
    obtain ⟨hk, h⟩ := Option.ite_none_left_eq_some.mp h
    cases h
    exact if_neg fun h' => hk (nsOmitted_anti hU h')
  | media ks =>
    obtain ⟨hk, rfl⟩ := wRule_inv h
    simp only [wRule, wRules_stable p U U' hA hU false ks, hk, if_true]
  | style _ _ | page _ _ | fontface _ =>
    obtain ⟨hk, rfl⟩ := wRule_inv h
    simp only [wRule, blockText_wBlock p hA, wMargins_idem p hA, hk, if_true, wBlock_idem]
  | _ => cases wRule_inv h; exact h
theorem wRules_stable (p : Prefs) (U U' : List Nat) (hA : NoSepQuirk p)
    (hU : p.keepUsedNamespaceRulesOnly = false ∨ ∀ v, v ∈ U → v ∈ U') :
    ∀ (top : Bool) (rs : List Rule), wRules p U' top (wRules p U top rs) = wRules p U top rs
  | _, [] => rfl
  | top, r :: rs => by
    rw [wRules]
    cases h : wRule p U top r with
    | none => exact wRules_stable p U U' hA hU top rs
    | some r' => simp only [wRules, wRule_stable p U U' hA hU top r r' h, wRules_stable p U U' hA hU top rs]
end

mutual
theorem used_wRule (p : Prefs) (U : List Nat) :
    ∀ (top : Bool) (r r' : Rule), wRule p U top r = some r' → ∀ u, u ∈ usedRule r' → u ∈ usedRule r := by
  intro top r r' h u hu
  cases r with
  | media ks =>
    obtain ⟨-, rfl⟩ := wRule_inv h
    exact used_wRules p U false ks u hu
  | style _ _ | page _ _ | fontface _ =>
    obtain ⟨-, rfl⟩ := wRule_inv h
    exact hu
  | _ => cases wRule_inv h; exact hu
theorem used_wRules (p : Prefs) (U : List Nat) :
    ∀ (top : Bool) (rs : List Rule) u, u ∈ usedRules (wRules p U top rs) → u ∈ usedRules rs
  | _, [], u, hu => hu
  | top, r :: rs, u, hu => by
    rw [wRules] at hu
    simp only [usedRules, List.mem_append]
    cases h : wRule p U top r with
    | none => rw [h] at hu; exact Or.inr (used_wRules p U top rs u hu)
    | some r' =>
      rw [h] at hu
      simp only [usedRules, List.mem_append] at hu
      exact hu.imp (used_wRule p U top r r' h u) (used_wRules p U top rs u)
end

/-! ### with keepEmptyRules every style rule is written: the used uris stay -/

mutual
theorem used_wRule_keepEmpty (p : Prefs) (U : List Nat) (hE : p.keepEmptyRules = true) :
    ∀ (top : Bool) (r : Rule) u, u ∈ usedRule r → ∃ r', wRule p U top r = some r' ∧ u ∈ usedRule r' := by
  intro top r u hu
  cases r with
  | style us b => exact ⟨_, if_pos (by rw [hE, Bool.or_true]), hu⟩
  | media ks => exact ⟨_, if_pos (by rw [hE, Bool.or_true]), used_wRules_keepEmpty p U hE false ks u hu⟩
  | _ => cases hu
theorem used_wRules_keepEmpty (p : Prefs) (U : List Nat) (hE : p.keepEmptyRules = true) :
    ∀ (top : Bool) (rs : List Rule) u, u ∈ usedRules rs → u ∈ usedRules (wRules p U top rs)
  | _, [], u, hu => hu
  | top, r :: rs, u, hu => by
    simp only [usedRules, List.mem_append] at hu
    rw [wRules]
    rcases hu with hu | hu
    · obtain ⟨r', h, hr'⟩ := used_wRule_keepEmpty p U hE top r u hu
      rw [h]
      exact List.mem_append_left _ hr'
    · have ih := used_wRules_keepEmpty p U hE top rs u hu
      cases h : wRule p U top r with
      | none => exact ih
      | some r' => exact List.mem_append_right _ ih
end

/-! ### "obtained by deleting only": a sublist at every level of the tree -/

inductive BlocksSub : List Block → List Block → Prop
  | nil : BlocksSub [] []
  | drop {ms' ms : List Block} (m : Block) : BlocksSub ms' ms → BlocksSub ms' (m :: ms)
  | keep {ms' ms : List Block} {m' m : Block} : m'.Sublist m → BlocksSub ms' ms → BlocksSub (m' :: ms') (m :: ms)

mutual
/-- `RuleSub r' r`: the rule `r'` is `r` with items of its blocks, margin boxes or child rules deleted -/
inductive RuleSub : Rule → Rule → Prop
  | same (r : Rule) : RuleSub r r
  | style {u : List Nat} {b' b : Block} : b'.Sublist b → RuleSub (.style u b') (.style u b)
  | media {ks' ks : List Rule} : RulesSub ks' ks → RuleSub (.media ks') (.media ks)
  | page {b' b : Block} {ms' ms : List Block} : b'.Sublist b → BlocksSub ms' ms → RuleSub (.page b' ms') (.page b ms)
  | fontface {b' b : Block} : b'.Sublist b → RuleSub (.fontface b') (.fontface b)
/-- `RulesSub rs' rs`: rules deleted, the others in their order and each a `RuleSub` -/
inductive RulesSub : List Rule → List Rule → Prop
  | nil : RulesSub [] []
  | drop {rs' rs : List Rule} (r : Rule) : RulesSub rs' rs → RulesSub rs' (r :: rs)
  | keep {rs' rs : List Rule} {r' r : Rule} : RuleSub r' r → RulesSub rs' rs → RulesSub (r' :: rs') (r :: rs)
end

theorem BlocksSub.ne_nil {ms' ms : List Block} (h : BlocksSub ms' ms) (h' : ms' ≠ []) : ms ≠ [] := by
  cases h <;> simp_all

theorem RulesSub.ne_nil {rs' rs : List Rule} (h : RulesSub rs' rs) (h' : rs' ≠ []) : rs ≠ [] := by
  cases h <;> simp_all

theorem wMargins_sub (p : Prefs) : ∀ ms, BlocksSub (wMargins p ms) ms
  | [] => .nil
  | m :: ms => by
    rw [wMargins]
    split
    · exact .keep (wBlock_sublist p m) (wMargins_sub p ms)
    · exact .drop m (wMargins_sub p ms)

mutual
theorem wRule_sub (p : Prefs) (U : List Nat) : ∀ (top : Bool) (r r' : Rule), wRule p U top r = some r' → RuleSub r' r := by
  intro top r r' h
  cases r with
  | style _ b =>
    obtain ⟨-, rfl⟩ := wRule_inv h
    exact .style (wBlock_sublist p b)
  | media ks =>
    obtain ⟨-, rfl⟩ := wRule_inv h
    exact .media (wRules_sub p U false ks)
  | page b ms =>
    obtain ⟨-, rfl⟩ := wRule_inv h
    exact .page (wBlock_sublist p b) (wMargins_sub p ms)
  | fontface b =>
    obtain ⟨-, rfl⟩ := wRule_inv h
    exact .fontface (wBlock_sublist p b)
  | _ => cases wRule_inv h; exact .same _
theorem wRules_sub (p : Prefs) (U : List Nat) : ∀ (top : Bool) (rs : List Rule), RulesSub (wRules p U top rs) rs
  | _, [] => .nil
  | top, r :: rs => by
    rw [wRules]
    cases h : wRule p U top r with
    | none => exact .drop r (wRules_sub p U top rs)
    | some r' => exact .keep (wRule_sub p U top r r' h) (wRules_sub p U top rs)
end

theorem wMargins_default_sub (p : Prefs) : ∀ ms, BlocksSub (wMargins p ms) (wMargins {} ms)
  | [] => .nil
  | m :: ms => by
    rw [wMargins, wMargins, wBlock_default]
    split
    · next h =>
      rw [if_pos (blockText_mono_default h)]
      exact .keep (wBlock_sublist p m) (wMargins_default_sub p ms)
    · split
      · exact .drop m (wMargins_default_sub p ms)
      · exact wMargins_default_sub p ms

mutual
theorem wRule_default_sub (p : Prefs) (hE : p.keepEmptyRules = false) (U U0 : List Nat) :
    ∀ (top : Bool) (r r' : Rule), wRule p U top r = some r' → ∃ r0, wRule {} U0 top r = some r0 ∧ RuleSub r' r0 := by
  intro top r r' h
  cases r with
  | style u b =>
    obtain ⟨hk, rfl⟩ := wRule_inv h
    rw [hE, Bool.or_false] at hk
    exact ⟨.style u b, by simp [wRule, blockText_mono_default hk, wBlock_default], .style (wBlock_sublist p b)⟩
  | media ks =>
    obtain ⟨hk, rfl⟩ := wRule_inv h
    rw [hE, Bool.or_false, Bool.not_eq_true', List.isEmpty_eq_false_iff] at hk
    have hs := wRules_default_sub p hE U U0 false ks
    exact ⟨.media (wRules {} U0 false ks), by simp [wRule, hs.ne_nil hk], .media hs⟩
  | page b ms =>
    obtain ⟨hk, rfl⟩ := wRule_inv h
    have hs := wMargins_default_sub p ms
    refine ⟨.page b (wMargins {} ms), ?_, .page (wBlock_sublist p b) hs⟩
    rw [wRule, wBlock_default, if_pos]
    rw [Bool.or_eq_true, Bool.not_eq_true', List.isEmpty_eq_false_iff] at hk ⊢
    exact hk.imp blockText_mono_default hs.ne_nil
  | fontface b =>
    obtain ⟨hk, rfl⟩ := wRule_inv h
    exact ⟨.fontface b, by simp [wRule, blockText_mono_default hk, wBlock_default], .fontface (wBlock_sublist p b)⟩
  | _ => cases wRule_inv h; exact ⟨_, by simp [wRule, nsOmitted], .same _⟩
theorem wRules_default_sub (p : Prefs) (hE : p.keepEmptyRules = false) (U U0 : List Nat) :
    ∀ (top : Bool) (rs : List Rule), RulesSub (wRules p U top rs) (wRules {} U0 top rs)
  | _, [] => .nil
  | top, r :: rs => by
    rw [wRules, wRules]
    cases h : wRule p U top r with
    | none =>
      cases h0 : wRule {} U0 top r with
      | none => exact wRules_default_sub p hE U U0 top rs
      | some r0 => exact .drop r0 (wRules_default_sub p hE U U0 top rs)
    | some r' =>
      obtain ⟨r0, h0, hs⟩ := wRule_default_sub p hE U U0 top r r' h
      rw [h0]
      exact .keep hs (wRules_default_sub p hE U U0 top rs)
end

/-! ### every deletion has a reason that a preference names -/

/-- a reason for leaving out the item that stands between `pre` and `post` -/
inductive ItemReason (p : Prefs) (pre post : List Item) : Item → Prop
  | comment : p.keepComments = false → ItemReason p pre post .comment
  | atrule : p.keepUnknownAtRules = false → ItemReason p pre post .atrule
  | shadowed {n : Nat} {i v : Bool} : p.keepAllProperties = false → effective pre post n i = false →
      ItemReason p pre post (.decl n i v)
  | invalid {n : Nat} {i : Bool} : p.validOnly = true → ItemReason p pre post (.decl n i false)

theorem kept_false_iff (p : Prefs) (pre post : List Item) (x : Item) :
    kept p pre post x = false ↔ ItemReason p pre post x := by
  constructor
  · intro h
    unfold kept at h
    cases x with
    | comment => exact .comment (by simpa [inSeq, writes] using h)
    | atrule => exact .atrule (by simpa [inSeq, writes] using h)
    | decl n i v =>
      simp only [inSeq, writes, Bool.and_eq_false_iff, Bool.or_eq_false_iff, Bool.not_eq_false'] at h
      rcases h with ⟨h1, h2⟩ | ⟨h1, h2⟩
      · exact .shadowed h1 h2
      · subst h2; exact .invalid h1
  · intro h
    cases h with
    | comment h | atrule h | invalid h => simp [kept, writes, h]
    | shadowed h1 h2 => simp [kept, inSeq, h1, h2]

/-- `BlockDoc p pre b b'`: `b'` is `b` (standing after `pre`) less items that each have a reason -/
inductive BlockDoc (p : Prefs) : List Item → List Item → List Item → Prop
  | nil (pre : List Item) : BlockDoc p pre [] []
  | keep {pre post post' : List Item} (x : Item) : BlockDoc p (pre ++ [x]) post post' → BlockDoc p pre (x :: post) (x :: post')
  | drop {pre post post' : List Item} {x : Item} : ItemReason p pre post x → BlockDoc p (pre ++ [x]) post post' →
      BlockDoc p pre (x :: post) post'

theorem wItems_doc (p : Prefs) : ∀ (b pre : List Item), BlockDoc p pre b (wItems p pre b)
  | [], pre => .nil pre
  | x :: post, pre => by
    rw [wItems]
    split
    · exact .keep x (wItems_doc p post _)
    · next h => exact .drop ((kept_false_iff p pre post x).mp (by simpa using h)) (wItems_doc p post _)

theorem blockDoc_nil_of_silent (p : Prefs) (b : Block) (h : blockText p b = false) : BlockDoc p [] b [] := by
  have hd := wItems_doc p b []
  rw [blockText_eq, Bool.or_eq_false_iff, Bool.not_eq_false', List.isEmpty_iff] at h
  rwa [← wBlock, h.1] at hd

/-- margin boxes: one is left out when nothing of it is written (no preference is asked) -/
inductive MarginsDoc (p : Prefs) : List Block → List Block → Prop
  | nil : MarginsDoc p [] []
  | keep {m m' : Block} {ms ms' : List Block} : BlockDoc p [] m m' → MarginsDoc p ms ms' → MarginsDoc p (m :: ms) (m' :: ms')
  | hollow {m : Block} {ms ms' : List Block} : BlockDoc p [] m [] → MarginsDoc p ms ms' → MarginsDoc p (m :: ms) ms'

theorem wMargins_doc (p : Prefs) : ∀ ms, MarginsDoc p ms (wMargins p ms)
  | [] => .nil
  | m :: ms => by
    rw [wMargins]
    split
    · exact .keep (wItems_doc p m []) (wMargins_doc p ms)
    · next h => exact .hollow (blockDoc_nil_of_silent p m (by simpa using h)) (wMargins_doc p ms)

mutual
/-- `RuleDoc p U r r'`: the rule `r` is written as `r'` -/
inductive RuleDoc (p : Prefs) (U : List Nat) : Rule → Rule → Prop
  | same (r : Rule) : RuleDoc p U r r
  | style {u : List Nat} {b b' : Block} : BlockDoc p [] b b' → RuleDoc p U (.style u b) (.style u b')
  | media {ks ks' : List Rule} : RulesDoc p U false ks ks' → RuleDoc p U (.media ks) (.media ks')
  | page {b b' : Block} {ms ms' : List Block} : BlockDoc p [] b b' → MarginsDoc p ms ms' →
      RuleDoc p U (.page b ms) (.page b' ms')
  | fontface {b b' : Block} : BlockDoc p [] b b' → RuleDoc p U (.fontface b) (.fontface b')
/-- `RulesDoc p U top rs rs'`: `rs'` is `rs` less rules that each have a reason, the others written as `RuleDoc` says -/
inductive RulesDoc (p : Prefs) (U : List Nat) : Bool → List Rule → List Rule → Prop
  | nil (top : Bool) : RulesDoc p U top [] []
  | keep {top : Bool} {r r' : Rule} {rs rs' : List Rule} : RuleDoc p U r r' → RulesDoc p U top rs rs' →
      RulesDoc p U top (r :: rs) (r' :: rs')
  | drop {top : Bool} {r : Rule} {rs rs' : List Rule} : RuleReason p U top r → RulesDoc p U top rs rs' →
      RulesDoc p U top (r :: rs) rs'
/-- the reasons for leaving out a rule; `U`: the uris used by the style rules of the sheet.  The last two name no
preference: an @page / @font-face of which nothing is written is left out whatever keepEmptyRules says. -/
inductive RuleReason (p : Prefs) (U : List Nat) : Bool → Rule → Prop
  | comment {top : Bool} : p.keepComments = false → RuleReason p U top .comment
  | unknown {top : Bool} : p.keepUnknownAtRules = false → RuleReason p U top .unknown
  | unusedNs {u : Nat} {d : Bool} : p.keepUsedNamespaceRulesOnly = true → u ∉ U → (d = false ∨ 0 ∉ U) →
      RuleReason p U true (.ns u d)
  | emptyStyle {top : Bool} {u : List Nat} {b : Block} : p.keepEmptyRules = false → BlockDoc p [] b [] →
      RuleReason p U top (.style u b)
  | emptyMedia {top : Bool} {ks : List Rule} : p.keepEmptyRules = false → RulesDoc p U false ks [] →
      RuleReason p U top (.media ks)
  | hollowPage {top : Bool} {b : Block} {ms : List Block} : BlockDoc p [] b [] → MarginsDoc p ms [] →
      RuleReason p U top (.page b ms)
  | hollowFontface {top : Bool} {b : Block} : BlockDoc p [] b [] → RuleReason p U top (.fontface b)
end

mutual
theorem wRule_doc (p : Prefs) (U : List Nat) : ∀ (top : Bool) (r : Rule),
    (∀ r', wRule p U top r = some r' → RuleDoc p U r r') ∧ (wRule p U top r = none → RuleReason p U top r) := by
  intro top r
  refine ⟨fun r' h => ?_, fun h => ?_⟩
  · cases r with
    | style u b =>
      obtain ⟨-, rfl⟩ := wRule_inv h
      exact .style (wItems_doc p b [])
    | media ks =>
      obtain ⟨-, rfl⟩ := wRule_inv h
      exact .media (wRules_doc p U false ks)
    | page b ms =>
      obtain ⟨-, rfl⟩ := wRule_inv h
      exact .page (wItems_doc p b []) (wMargins_doc p ms)
    | fontface b =>
      obtain ⟨-, rfl⟩ := wRule_inv h
      exact .fontface (wItems_doc p b [])
    | _ => cases wRule_inv h; exact .same _
  · cases r with
    | charset | imp => cases h
    | comment => exact .comment (by simpa [wRule] using h)
    | unknown => exact .unknown (by simpa [wRule] using h)
    | ns u d =>
      obtain ⟨rfl, hk, hu, hd⟩ := nsOmitted_iff.mp (by simpa [wRule] using h)
      exact .unusedNs hk hu hd
    | style u b =>
      have hk : blockText p b = false ∧ p.keepEmptyRules = false := by simpa [wRule] using h
      exact .emptyStyle hk.2 (blockDoc_nil_of_silent p b hk.1)
    | media ks =>
      have hk : wRules p U false ks = [] ∧ p.keepEmptyRules = false := by simpa [wRule] using h
      exact .emptyMedia hk.2 (hk.1 ▸ wRules_doc p U false ks)
    | page b ms =>
      have hk : blockText p b = false ∧ wMargins p ms = [] := by simpa [wRule] using h
      exact .hollowPage (blockDoc_nil_of_silent p b hk.1) (hk.2 ▸ wMargins_doc p ms)
    | fontface b => exact .hollowFontface (blockDoc_nil_of_silent p b (by simpa [wRule] using h))
theorem wRules_doc (p : Prefs) (U : List Nat) : ∀ (top : Bool) (rs : List Rule), RulesDoc p U top rs (wRules p U top rs)
  | top, [] => .nil top
  | top, r :: rs => by
    rw [wRules]
    cases h : wRule p U top r with
    | none => exact .drop ((wRule_doc p U top r).2 h) (wRules_doc p U top rs)
    | some r' => exact .keep ((wRule_doc p U top r).1 r' h) (wRules_doc p U top rs)
end

/-! ### `written` in two steps: delete what a preference names, then delete what is left without content -/

mutual
/-- step 1: comments, unknown at-rules, unused @namespace rules; in every block the items `wBlock` leaves out -/
def stripRule (p : Prefs) (U : List Nat) (top : Bool) : Rule → Option Rule
  | .comment => if p.keepComments then some .comment else none
  | .charset => some .charset
  | .imp => some .imp
  | .unknown => if p.keepUnknownAtRules then some .unknown else none
  | .ns u d => if nsOmitted p U top u d then none else some (.ns u d)
  | .style u b => some (.style u (wBlock p b))
  | .media ks => some (.media (stripRules p U false ks))
  | .page b ms => some (.page (wBlock p b) (ms.map (wBlock p)))
  | .fontface b => some (.fontface (wBlock p b))
def stripRules (p : Prefs) (U : List Nat) (top : Bool) : List Rule → List Rule
  | [] => []
  | r :: rs =>
    match stripRule p U top r with
    | some r' => r' :: stripRules p U top rs
    | none => stripRules p U top rs
end

mutual
/-- step 2: a style or @media rule without content goes unless keepEmptyRules; an @page, a margin box, an @font-face
without content goes always -/
def pruneRule (keepEmpty : Bool) : Rule → Option Rule
  | .comment => some .comment
  | .charset => some .charset
  | .imp => some .imp
  | .unknown => some .unknown
  | .ns u d => some (.ns u d)
  | .style u b => if !b.isEmpty || keepEmpty then some (.style u b) else none
  | .media ks =>
    let ks' := pruneRules keepEmpty ks
    if !ks'.isEmpty || keepEmpty then some (.media ks') else none
  | .page b ms =>
    let ms' := ms.filter (fun m => !m.isEmpty)
    if !b.isEmpty || !ms'.isEmpty then some (.page b ms') else none
  | .fontface b => if !b.isEmpty then some (.fontface b) else none
def pruneRules (keepEmpty : Bool) : List Rule → List Rule
  | [] => []
  | r :: rs =>
    match pruneRule keepEmpty r with
    | some r' => r' :: pruneRules keepEmpty rs
    | none => pruneRules keepEmpty rs
end

mutual
/-- no @page, margin box or @font-face without any item -/
def hollowFreeRule : Rule → Bool
  | .media ks => hollowFreeRules ks
  | .page b ms => (!b.isEmpty || !ms.isEmpty) && ms.all (fun m => !m.isEmpty)
  | .fontface b => !b.isEmpty
  | _ => true
def hollowFreeRules : List Rule → Bool
  | [] => true
  | r :: rs => hollowFreeRule r && hollowFreeRules rs
end

mutual
theorem wRule_eq (p : Prefs) (U : List Nat) (hA : NoSepQuirk p) : ∀ (top : Bool) (r : Rule),
    wRule p U top r = (stripRule p U top r).bind (pruneRule p.keepEmptyRules) := by
  intro top r
  cases r with
  | charset | imp => rfl
  | comment | unknown | ns _ _ => simp only [wRule, stripRule]; split <;> rfl
  | style _ _ | fontface _ => simp only [wRule, stripRule, Option.bind_some, pruneRule, blockText_plain p hA]
  | media ks => simp only [wRule, stripRule, Option.bind_some, pruneRule, wRules_eq p U hA false ks]
  | page _ _ => simp only [wRule, stripRule, Option.bind_some, pruneRule, blockText_plain p hA, wMargins_eq p hA]
theorem wRules_eq (p : Prefs) (U : List Nat) (hA : NoSepQuirk p) : ∀ (top : Bool) (rs : List Rule),
    wRules p U top rs = pruneRules p.keepEmptyRules (stripRules p U top rs)
  | _, [] => rfl
  | top, r :: rs => by
    rw [wRules, stripRules, wRule_eq p U hA top r, wRules_eq p U hA top rs]
    cases hs : stripRule p U top r with
    | none => rfl
    | some r1 =>
      simp only [Option.bind_some]
      rw [pruneRules]
      cases pruneRule p.keepEmptyRules r1 <;> rfl
end

mutual
theorem stripRule_keep (p : Prefs) (U : List Nat) (h1 : p.keepAllProperties = true) (h2 : p.keepComments = true)
    (h3 : p.keepUnknownAtRules = true) (h4 : p.validOnly = false) (h5 : p.keepUsedNamespaceRulesOnly = false) :
    ∀ (top : Bool) (r : Rule), stripRule p U top r = some r := by
  intro top r
  have hb : wBlock p = id := funext (wBlock_keep p h1 h2 h3 h4)
  cases r with
  | media ks => simp [stripRule, stripRules_keep p U h1 h2 h3 h4 h5 false ks]
  | _ => simp [stripRule, nsOmitted, h2, h3, h5, hb]
theorem stripRules_keep (p : Prefs) (U : List Nat) (h1 : p.keepAllProperties = true) (h2 : p.keepComments = true)
    (h3 : p.keepUnknownAtRules = true) (h4 : p.validOnly = false) (h5 : p.keepUsedNamespaceRulesOnly = false) :
    ∀ (top : Bool) (rs : List Rule), stripRules p U top rs = rs
  | _, [] => rfl
  | top, r :: rs => by
    simp only [stripRules, stripRule_keep p U h1 h2 h3 h4 h5 top r, stripRules_keep p U h1 h2 h3 h4 h5 top rs]
end

mutual
theorem pruneRule_keep : ∀ (r : Rule), hollowFreeRule r = true → pruneRule true r = some r := by
  intro r h
  cases r with
  | media ks => simp [pruneRule, pruneRules_keep ks h]
  | page b ms =>
    simp only [hollowFreeRule, Bool.and_eq_true] at h
    have hf : ms.filter (fun m => !m.isEmpty) = ms := List.filter_eq_self.mpr (List.all_eq_true.mp h.2)
    simp only [pruneRule, hf]
    exact if_pos h.1
  | fontface b => exact if_pos h
  | _ => simp [pruneRule]
theorem pruneRules_keep : ∀ (rs : List Rule), hollowFreeRules rs = true → pruneRules true rs = rs
  | [], _ => rfl
  | r :: rs, h => by
    simp only [hollowFreeRules, Bool.and_eq_true] at h
    simp only [pruneRules, pruneRule_keep r h.1, pruneRules_keep rs h.2]
end

/-! ### the equality test is sound (for counterexamples decided by evaluation) -/

mutual
theorem Rule.beq_refl : ∀ r : Rule, Rule.beq r r = true := by
  intro r
  cases r with
  | media ks => simp [Rule.beq, beqRules_refl ks]
  | _ => simp [Rule.beq]
theorem beqRules_refl : ∀ rs : List Rule, beqRules rs rs = true
  | [] => rfl
  | r :: rs => by simp [beqRules, Rule.beq_refl r, beqRules_refl rs]
end

theorem ne_of_beqRules_false {a b : List Rule} (h : beqRules a b = false) : a ≠ b := by
  intro hab
  rw [hab, beqRules_refl] at h
  cases h

end CssVerif.Omit
