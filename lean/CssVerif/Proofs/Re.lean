/-
Generic facts about the regex semantics `ms` and the executable matcher `m`.
-/
import CssVerif.Model.Re
namespace CssVerif.Re

theorem starIter_suffix {step : Text → List Text}
    (h : ∀ s t, t ∈ step s → t <:+ s) :
    ∀ n s t, t ∈ starIter step n s → t <:+ s := by
  intro n
  induction n with
  | zero => intro s t ht; simp [starIter] at ht; subst ht; exact List.suffix_refl _
  | succ n ih =>
    intro s t ht
    simp only [starIter, List.mem_append, List.mem_flatMap, List.mem_filter, List.mem_singleton] at ht
    rcases ht with ⟨u, ⟨hu, _⟩, htu⟩ | rfl
    · exact (ih u t htu).trans (h s u hu)
    · exact List.suffix_refl _

theorem mem_lazyIter {step : Text → List Text} : ∀ {n : Nat} {s t : Text},
    t ∈ lazyIter step n s ↔ t ∈ starIter step n s := by
  intro n
  induction n with
  | zero => intro s t; rfl
  | succ n ih =>
    intro s t
    simp only [lazyIter, starIter, List.mem_cons, List.mem_append, List.mem_flatMap, List.not_mem_nil, or_false, ih]
    exact Or.comm

theorem starIter_of_stuck {step : Text → List Text} {s : Text} (h : ∀ u ∈ step s, u = s) (n : Nat) :
    ∀ t ∈ starIter step n s, t = s := by
  intro t ht
  cases n with
  | zero => simpa [starIter] using ht
  | succ n =>
    have hf : (step s).filter (fun t => t.length < s.length) = [] := by
      apply List.filter_eq_nil_iff.mpr
      intro u hu
      rw [h u hu]
      simp
    simpa [starIter, hf] using ht

theorem ms_suffix : ∀ (r : Re) (s t : Text), t ∈ ms r s → t <:+ s := by
  intro r
  induction r with
  | eps => intro s t h; simp [ms] at h; subst h; exact List.suffix_refl _
  | cls _ _ | ahead _ | nahead _ _ =>
    intro s t h
    cases s with
    | nil => simp_all [ms]
    | cons c s =>
      simp only [ms] at h
      split at h <;> simp_all
  | seq a b iha ihb =>
    intro s t h
    simp only [ms, List.mem_flatMap] at h
    obtain ⟨u, hu, ht⟩ := h
    exact (ihb u t ht).trans (iha s u hu)
  | alt a b iha ihb =>
    intro s t h
    simp only [ms, List.mem_append] at h
    rcases h with h | h
    · exact iha s t h
    · exact ihb s t h
  | star a iha => intro s t h; exact starIter_suffix iha _ s t h
  | opt a iha =>
    intro s t h
    simp only [ms, List.mem_append, List.mem_singleton] at h
    rcases h with h | rfl
    · exact iha s t h
    · exact List.suffix_refl _
  | lazyStar a iha => intro s t h; exact starIter_suffix iha _ s t (mem_lazyIter.mp h)

theorem ms_length_le (r : Re) (s t : Text) (h : t ∈ ms r s) : t.length ≤ s.length :=
  (ms_suffix r s t h).length_le

theorem ms_progress : ∀ (r : Re), nullable r = false →
    ∀ (s t : Text), t ∈ ms r s → t.length < s.length := by
  intro r
  induction r with
  | cls neg rs =>
    intro _ s t h
    cases s with
    | nil => simp [ms] at h
    | cons c s =>
      simp only [ms] at h
      split at h
      · simp at h; subst h; simp
      · simp at h
  | seq a b iha ihb =>
    intro hn s t h
    simp only [ms, List.mem_flatMap] at h
    obtain ⟨u, hu, ht⟩ := h
    simp only [nullable, Bool.and_eq_false_iff] at hn
    have h1 := ms_length_le a s u hu
    have h2 := ms_length_le b u t ht
    rcases hn with hn | hn
    · have := iha hn s u hu; omega
    · have := ihb hn u t ht; omega
  | alt a b iha ihb =>
    intro hn s t h
    simp only [nullable, Bool.or_eq_false_iff] at hn
    simp only [ms, List.mem_append] at h
    rcases h with h | h
    · exact iha hn.1 s t h
    · exact ihb hn.2 s t h
  | _ => intro h; simp [nullable] at h

theorem starIter_ne_nil (step : Text → List Text) (n : Nat) (s : Text) : starIter step n s ≠ [] := by
  cases n <;> simp [starIter]

theorem lazyIter_ne_nil (step : Text → List Text) (n : Nat) (s : Text) : lazyIter step n s ≠ [] := by
  cases n <;> simp [lazyIter]

theorem flatMap_ne_nil {α β} (l : List α) (f : α → List β) (hl : l ≠ []) (hf : ∀ x, f x ≠ []) :
    l.flatMap f ≠ [] := by
  obtain ⟨x, hx⟩ := List.exists_mem_of_ne_nil l hl
  exact fun h => hf x (List.flatMap_eq_nil_iff.mp h x hx)

theorem total_ms : ∀ (r : Re), covers.total r = true → ∀ s, ms r s ≠ [] := by
  intro r
  induction r with
  | eps => intro _ s; simp [ms]
  | seq a b iha ihb =>
    intro h s
    simp only [covers.total, Bool.and_eq_true] at h
    simp only [ms]
    exact flatMap_ne_nil _ _ (iha h.1 s) (fun x => ihb h.2 x)
  | alt a b iha ihb =>
    intro h s
    simp only [covers.total, Bool.or_eq_true] at h
    simp only [ms]
    intro hc
    have := List.append_eq_nil_iff.mp hc
    rcases h with h | h
    · exact iha h s this.1
    · exact ihb h s this.2
  | star a _ => intro _ s; exact starIter_ne_nil _ _ _
  | opt a _ => intro _ s; simp [ms]
  | lazyStar a _ => intro _ s; exact lazyIter_ne_nil _ _ _
  | _ => intro h; simp [covers.total] at h

theorem covers_ms : ∀ (r : Re) (c : Nat), covers r c = true → ∀ s, ms r (c :: s) ≠ [] := by
  intro r
  induction r with
  | eps => intro c _ s; simp [ms]
  | cls neg rs => intro c h s; simp only [covers] at h; simp [ms, h]
  | seq a b iha _ =>
    intro c h s
    simp only [covers, Bool.and_eq_true] at h
    simp only [ms]
    exact flatMap_ne_nil _ _ (iha c h.1 s) (fun x => total_ms b h.2 x)
  | alt a b iha ihb =>
    intro c h s
    simp only [covers, Bool.or_eq_true] at h
    simp only [ms]
    intro hc
    have := List.append_eq_nil_iff.mp hc
    rcases h with h | h
    · exact iha c h s this.1
    · exact ihb c h s this.2
  | star a _ => intro c _ s; exact starIter_ne_nil _ _ _
  | opt a _ => intro c _ s; simp [ms]
  | lazyStar a _ => intro c _ s; exact lazyIter_ne_nil _ _ _
  | _ => intro d h; simp [covers] at h

theorem findSome?_flatMap {α β γ} (l : List α) (f : α → List β) (k : β → Option γ) :
    (l.flatMap f).findSome? k = l.findSome? (fun a => (f a).findSome? k) := by
  induction l with
  | nil => simp
  | cons x xs ih => simp [List.findSome?_append, ih, List.findSome?_cons]; cases (f x).findSome? k <;> simp

theorem findSome?_guard {α β} (l : List α) (p : α → Prop) [DecidablePred p] (g : α → Option β) :
    l.findSome? (fun t => if p t then g t else none) = (l.filter (fun t => decide (p t))).findSome? g := by
  induction l with
  | nil => rfl
  | cons x xs ih =>
    simp only [List.findSome?_cons, List.filter_cons]
    by_cases hx : p x
    · simp only [hx, if_true, decide_true, List.findSome?_cons, ih]
    · simpa [hx] using ih

theorem mStar_eq {α} (stepM : Text → (Text → Option α) → Option α) (step : Text → List Text)
    (h : ∀ s k, stepM s k = (step s).findSome? k) (k : Text → Option α) :
    ∀ n s, mStar stepM k n s = (starIter step n s).findSome? k := by
  intro n
  induction n with
  | zero => intro s; simp [mStar, starIter]
  | succ n ih =>
    intro s
    simp only [mStar, starIter, List.findSome?_append, findSome?_flatMap, h, ih]
    rw [findSome?_guard (step s) (fun t => t.length < s.length)]
    cases ((step s).filter (fun t => t.length < s.length)).findSome? (fun a => (starIter step n a).findSome? k) <;> simp

theorem mLazy_eq {α} (stepM : Text → (Text → Option α) → Option α) (step : Text → List Text)
    (h : ∀ s k, stepM s k = (step s).findSome? k) (k : Text → Option α) :
    ∀ n s, mLazy stepM k n s = (lazyIter step n s).findSome? k := by
  intro n
  induction n with
  | zero => intro s; simp [mLazy, lazyIter]
  | succ n ih =>
    intro s
    simp only [mLazy, lazyIter, List.findSome?_cons, findSome?_flatMap, h, ih]
    rw [findSome?_guard (step s) (fun t => t.length < s.length)]
    cases k s <;> simp

theorem m_eq_ms {α} : ∀ (r : Re) (s : Text) (k : Text → Option α), m r s k = (ms r s).findSome? k := by
  intro r
  induction r with
  | eps => intro s k; simp [m, ms]
  | cls _ _ | ahead _ | nahead _ _ =>
    intro s k
    cases s with
    | nil => simp [m, ms]
    | cons c s =>
      simp only [m, ms]
      split <;> simp
  | seq a b iha ihb =>
    intro s k
    simp only [m, ms, findSome?_flatMap, iha]
    congr 1
    funext t
    exact ihb t k
  | alt a b iha ihb =>
    intro s k
    simp only [m, ms, List.findSome?_append, iha, ihb]
    cases (ms a s).findSome? k <;> simp
  | star a iha => intro s k; simp only [m, ms]; exact mStar_eq _ _ iha k _ s
  | opt a iha =>
    intro s k
    simp only [m, ms, List.findSome?_append, iha]
    cases (ms a s).findSome? k <;> simp
  | lazyStar a iha => intro s k; simp only [m, ms]; exact mLazy_eq _ _ iha k _ s

/-- `exec` is `re.match`: the head of the list of successes -/
theorem exec_eq_head (r : Re) (s : Text) : exec r s = (ms r s).head? := by
  simp only [exec, m_eq_ms]
  generalize ms r s = l
  cases l <;> simp

theorem exec_suffix (r : Re) (s t : Text) (h : exec r s = some t) : t <:+ s := by
  rw [exec_eq_head] at h
  exact ms_suffix r s t (List.mem_of_mem_head? h)

theorem exec_progress (r : Re) (hn : nullable r = false) (s t : Text) (h : exec r s = some t) :
    t.length < s.length := by
  rw [exec_eq_head] at h
  exact ms_progress r hn s t (List.mem_of_mem_head? h)

theorem exec_isSome_of_ne_nil (r : Re) (s : Text) (h : ms r s ≠ []) : (exec r s).isSome := by
  rw [exec_eq_head]
  cases hl : ms r s with
  | nil => exact absurd hl h
  | cons x xs => simp


theorem exec_none_of_ms_nil (r : Re) (s : Text) (h : ms r s = []) : exec r s = none := by
  rw [exec_eq_head, h]; rfl

theorem exec_some_of_head (r : Re) (s t : Text) (h : (ms r s).head? = some t) : exec r s = some t := by
  rw [exec_eq_head, h]

end CssVerif.Re
