/-
The specification of escaping and reading (`Model/Escape.lean`) by itself: what `hexUpper` writes, that `takeHex`
reads it back, the round trip `unescape (escapeAll can t) = t`, and how `unescape` / `cssUnescape` go through a text
character by character.
-/
import CssVerif.Model.Escape
import CssVerif.Model.Re
namespace CssVerif.Escape

theorem hexVal_digit (d : Nat) (h : d < 16) : hexVal (hexDigit d) = some d :=
  have all : ∀ d, d < 16 → hexVal (hexDigit d) = some d := by decide +kernel
  all d h

def foldHex (acc : Nat) (a : Text) : Nat := a.foldl (fun x c => x * 16 + (hexVal c).getD 0) acc

def allHex (a : Text) : Prop := ∀ c ∈ a, (hexVal c).isSome

theorem takeHex_append (a : Text) : ∀ (k acc n : Nat) (b : Text), allHex a → a.length ≤ k →
    takeHex k acc n (a ++ b) = takeHex (k - a.length) (foldHex acc a) (n + a.length) b := by
  induction a with
  | nil => intro k acc n b _ _; simp [foldHex]
  | cons c a ih =>
    intro k acc n b hh hk
    have hc := hh c (List.mem_cons_self ..)
    obtain ⟨d, hd⟩ := Option.isSome_iff_exists.1 hc
    cases k with
    | zero => simp at hk
    | succ k =>
      simp only [List.cons_append, takeHex, hd]
      rw [ih k _ _ b (fun x hx => hh x (List.mem_cons_of_mem _ hx)) (by simpa using hk)]
      simp only [foldHex, List.foldl_cons, hd, Option.getD_some, List.length_cons, Nat.add_sub_add_right,
        Nat.add_assoc, Nat.add_comm 1]

theorem hexUpper_mem : ∀ (fuel n x : Nat), x ∈ hexUpper fuel n → ∃ d, d < 16 ∧ x = hexDigit d := by
  intro fuel
  induction fuel with
  | zero => intro n x hx; simp [hexUpper] at hx
  | succ f ih =>
    intro n x hx
    simp only [hexUpper] at hx
    split at hx
    · rename_i h16
      exact ⟨n, h16, by simpa using hx⟩
    · simp only [List.mem_append, List.mem_singleton] at hx
      rcases hx with hx | hx
      · exact ih _ x hx
      · exact ⟨n % 16, Nat.mod_lt _ (by omega), hx⟩

theorem hexUpper_allHex (fuel n : Nat) : allHex (hexUpper fuel n) := by
  intro c hc
  obtain ⟨d, hd, rfl⟩ := hexUpper_mem fuel n c hc
  rw [hexVal_digit d hd]; rfl

/-- with enough fuel, the digits `hexUpper` writes have the value `n`, are as few as the size of `n` allows, and
are at least one -/
theorem hexUpper_spec : ∀ (fuel n : Nat), n < 16 ^ fuel → 0 < fuel →
    (∀ acc, foldHex acc (hexUpper fuel n) = acc * 16 ^ (hexUpper fuel n).length + n) ∧
    (∀ k, n < 16 ^ k → 0 < k → (hexUpper fuel n).length ≤ k) ∧ 0 < (hexUpper fuel n).length := by
  intro fuel
  induction fuel with
  | zero => intro n _ h; omega
  | succ f ih =>
    intro n hn _
    simp only [hexUpper]
    by_cases h16 : n < 16
    · simp only [h16, if_true]
      refine ⟨?_, ?_, by simp⟩
      · intro acc; simp [foldHex, hexVal_digit n h16]
      · intro k _ hk; simp; omega
    · simp only [h16, if_false]
      have hf : 0 < f := by
        cases f with
        | zero => simp at hn; omega
        | succ _ => omega
      have hdiv : n / 16 < 16 ^ f := by
        rw [Nat.pow_succ] at hn
        exact Nat.div_lt_of_lt_mul (by omega)
      obtain ⟨i2, i3, i4⟩ := ih (n / 16) hdiv hf
      have hm : n % 16 < 16 := Nat.mod_lt _ (by omega)
      refine ⟨?_, ?_, by simp⟩
      · intro acc
        simp only [foldHex, List.foldl_append, List.foldl_cons, List.foldl_nil, hexVal_digit _ hm,
          Option.getD_some, List.length_append, List.length_singleton]
        have := i2 acc
        simp only [foldHex] at this
        rw [this, Nat.pow_succ]
        have := Nat.div_add_mod n 16
        calc (acc * 16 ^ (hexUpper f (n / 16)).length + n / 16) * 16 + n % 16
            = acc * 16 ^ (hexUpper f (n / 16)).length * 16 + (16 * (n / 16) + n % 16) := by
              rw [Nat.add_mul]; omega
          _ = acc * (16 ^ (hexUpper f (n / 16)).length * 16) + n := by rw [this, Nat.mul_assoc]
      · intro k hk hk0
        simp only [List.length_append, List.length_singleton]
        cases k with
        | zero => omega
        | succ k =>
          have : n / 16 < 16 ^ k := by
            rw [Nat.pow_succ] at hk
            exact Nat.div_lt_of_lt_mul (by omega)
          have hk' : 0 < k := by
            cases k with
            | zero => simp at this; omega
            | succ _ => omega
          have := i3 k this hk'
          omega

theorem unescape_plain (fuel c : Nat) (s : Text) (hc : c ≠ 92) : unescape (fuel + 1) (c :: s) = c :: unescape fuel s := by
  simp [unescape]

theorem unescape_esc (fuel c : Nat) (rest : Text) (hc : c ≤ 0x10FFFF) :
    unescape (fuel + 1) (escChar c ++ rest) = c :: unescape fuel rest := by
  obtain ⟨hval, hlen, hne⟩ := hexUpper_spec 8 c (by omega) (by omega)
  have ht : takeHex 6 0 0 (hexUpper 8 c ++ 32 :: rest) = (c, (hexUpper 8 c).length, 32 :: rest) := by
    rw [takeHex_append _ 6 0 0 _ (hexUpper_allHex 8 c) (hlen 6 (by omega) (by omega)), hval 0]
    simp only [Nat.zero_mul, Nat.zero_add]
    cases hk : 6 - (hexUpper 8 c).length with
    | zero => rfl
    | succ k => simp [takeHex, hexVal]
  have hn : ¬ (hexUpper 8 c).length = 0 := by omega
  simp only [escChar, List.cons_append, List.append_assoc, List.nil_append]
  simp [unescape, ht, hn, isWs, hc]

theorem escapeAll_length_ge (can : Nat → Bool) (t : Text) : t.length ≤ (escapeAll can t).length := by
  induction t with
  | nil => simp [escapeAll]
  | cons c t ih =>
    simp only [escapeAll, List.flatMap_cons, List.length_append, List.length_cons] at ih ⊢
    have : 1 ≤ (if can c = true then [c] else escChar c).length := by split <;> simp [escChar]
    omega

/-- **escaping the characters an encoding lacks and reading the result gives the text back**: for any text
without backslash and any set of encodable characters -/
theorem escape_roundtrip (can : Nat → Bool) (t : Text) (hb : ∀ c ∈ t, c ≠ 92) (hu : ∀ c ∈ t, c ≤ 0x10FFFF) :
    ∀ fuel, t.length < fuel → unescape fuel (escapeAll can t) = t := by
  induction t with
  | nil => intro fuel _; cases fuel <;> simp [escapeAll, unescape]
  | cons c t ih =>
    intro fuel hf
    cases fuel with
    | zero => simp at hf
    | succ f =>
      have hb' : ∀ x ∈ t, x ≠ 92 := fun x hx => hb x (List.mem_cons_of_mem _ hx)
      have hu' : ∀ x ∈ t, x ≤ 0x10FFFF := fun x hx => hu x (List.mem_cons_of_mem _ hx)
      have hrec := ih hb' hu' f (by simpa using hf)
      simp only [escapeAll, List.flatMap_cons] at hrec ⊢
      by_cases hcan : can c = true
      · simp only [hcan, if_true, List.singleton_append]
        rw [unescape_plain f c _ (hb c (List.mem_cons_self ..)), hrec]
      · simp only [hcan, Bool.false_eq_true, if_false]
        rw [unescape_esc f c _ (hu c (List.mem_cons_self ..)), hrec]

theorem escape_encodable (can : Nat → Bool) (t : Text) (h92 : can 92 = true) (h32 : can 32 = true)
    (hhex : ∀ d, d < 16 → can (hexDigit d) = true) : ∀ x ∈ escapeAll can t, can x = true := by
  intro x hx
  simp only [escapeAll, List.mem_flatMap] at hx
  obtain ⟨c, _, hxc⟩ := hx
  split at hxc
  · simp at hxc; subst hxc; assumption
  · simp only [escChar, List.mem_cons, List.mem_append, List.not_mem_nil, or_false] at hxc
    rcases hxc with (h | h) | h
    · subst h; exact h92
    · obtain ⟨d, hd, rfl⟩ := hexUpper_mem 8 c x h
      exact hhex d hd
    · subst h; exact h32

end CssVerif.Escape

namespace CssVerif

theorem unescape_nil (a : Nat) : Escape.unescape a [] = [] := by
  cases a <;> rfl

theorem cssUnescape_plain (c : Nat) (s : Text) (hc : c ≠ 92) :
    Escape.cssUnescape (c :: s) = c :: Escape.cssUnescape s := by
  simp only [Escape.cssUnescape, List.length_cons]
  rw [Escape.unescape_plain _ c s hc]

theorem cssUnescape_nil : Escape.cssUnescape [] = [] := rfl

end CssVerif
