/-
Re-parse of sheets that hold @namespace (and @variables) rules: the invariant `NsDistinct` (no two
@namespace rules share a prefix or a URI) holds in every reachable state, makes `_cleanNamespaces`
the identity and lets the parse-time ordering machine accept the rule list unchanged.
-/
import CssVerif.Proofs.Namespaces
namespace CssVerif.Sheet

namespace RV

/-- one step of `view` (the same function as `viewStep`) -/
def viewStep_rp (d : List (Nat × Nat)) (r : Rule) : List (Nat × Nat) :=
  if dictHasVal d r.u || dictHasKey d r.p then d else d ++ [(r.p, r.u)]

theorem view_eq_rp (s : Sheet) : view s = (s.filter (isKind .namespace)).reverse.foldl viewStep_rp [] := rfl

end RV

def nsR (a b : Rule) : Prop := a.p ≠ b.p ∧ a.u ≠ b.u
def pairR (a b : Rule) : Prop := ¬ (a.p = b.p ∧ a.u = b.u)
def pfxR (a b : Rule) : Prop := a.p ≠ b.p

instance (a b : Rule) : Decidable (nsR a b) := by unfold nsR; infer_instance

def nsRules (s : Sheet) : Sheet := s.filter (isKind .namespace)

/-- no two @namespace rules of the sheet have the same prefix, no two have the same URI:
every rule is effective, `_cleanNamespaces` has nothing to do -/
def NsDistinct (s : Sheet) : Prop := (nsRules s).Pairwise nsR
/-- no @namespace declaration (prefix and URI) stands twice in the sheet -/
def DeclsDistinct (s : Sheet) : Prop := (nsRules s).Pairwise pairR
/-- no two @namespace rules of the sheet have the same prefix (what the parser keeps while reading) -/
def PfxOK (s : Sheet) : Prop := (nsRules s).Pairwise pfxR

instance (s : Sheet) : Decidable (NsDistinct s) := by unfold NsDistinct; infer_instance

/-- where an @variables rule may stand for the parser to take it: no @media/@page/style/@font-face
rule in front of it, no @import/@namespace behind it -/
def varR (a b : Rule) : Prop :=
  (a.kind = .variables → b.kind ≠ .import ∧ b.kind ≠ .namespace) ∧
  (b.kind = .variables → a.kind ∉ [Kind.media, .page, .style, .fontface])

instance (a b : Rule) : Decidable (varR a b) := by unfold varR; infer_instance

def VarOrd (s : Sheet) : Prop := s.Pairwise varR
instance (s : Sheet) : Decidable (VarOrd s) := by unfold VarOrd; infer_instance

def plain (l : Sheet) : Prop := ∀ x ∈ l, x.kind ≠ .namespace ∧ x.kind ≠ .variables

def noVariables (s : Sheet) : Prop := ∀ x ∈ s, x.kind ≠ .variables
instance (s : Sheet) : Decidable (noVariables s) := by unfold noVariables; infer_instance

theorem varOrd_of_noVariables {s : Sheet} (h : noVariables s) : VarOrd s := by
  unfold VarOrd
  rw [List.pairwise_iff_forall_sublist]
  intro a b hab
  have ha : a ∈ s := hab.subset (by simp)
  have hb : b ∈ s := hab.subset (by simp)
  exact ⟨fun hk => absurd hk (h a ha), fun hk => absurd hk (h b hb)⟩

theorem pw_cases {R : Rule → Rule → Prop} (hs : ∀ a b, R a b → R b a) {l : Sheet} (h : l.Pairwise R)
    {x y : Rule} (hx : x ∈ l) (hy : y ∈ l) : x = y ∨ R x y := by
  induction l with
  | nil => cases hx
  | cons z l ih =>
    rw [List.pairwise_cons] at h
    rcases List.mem_cons.mp hx with rfl | hx' <;> rcases List.mem_cons.mp hy with rfl | hy'
    · exact Or.inl rfl
    · exact Or.inr (h.1 y hy')
    · exact Or.inr (hs _ _ (h.1 x hx'))
    · exact ih h.2 hx' hy'

theorem mem_nsRules {s : Sheet} {r : Rule} : r ∈ nsRules s ↔ r ∈ s ∧ r.kind = .namespace := by
  simp [nsRules, List.mem_filter, isKind]

theorem nsRules_sublist {s s' : Sheet} (h : s'.Sublist s) : (nsRules s').Sublist (nsRules s) :=
  List.Sublist.filter _ h

theorem nsdistinct_sublist {s s' : Sheet} (h : s'.Sublist s) (hc : NsDistinct s) : NsDistinct s' :=
  List.Pairwise.sublist (nsRules_sublist h) hc
theorem pfxok_sublist {s s' : Sheet} (h : s'.Sublist s) (hc : PfxOK s) : PfxOK s' :=
  List.Pairwise.sublist (nsRules_sublist h) hc

theorem nsdistinct_nil : NsDistinct [] := List.Pairwise.nil

theorem pfxok_of_nsdistinct {s : Sheet} (h : NsDistinct s) : PfxOK s :=
  List.Pairwise.imp (fun hab => hab.1) h

theorem nsClean_of_nsDistinct {s : Sheet} (hc : NsDistinct s) : NsClean s := by
  refine clean_of_consistent fun a ha b hb hak hbk => ?_
  rcases pw_cases (fun _ _ h => ⟨fun e => h.1 e.symm, fun e => h.2 e.symm⟩) hc (mem_nsRules.mpr ⟨ha, hak⟩) (mem_nsRules.mpr ⟨hb, hbk⟩) with rfl | hne
  · exact ⟨fun _ => rfl, fun _ => rfl⟩
  · exact ⟨fun h => absurd h hne.1, fun h => absurd h hne.2⟩

theorem cleanNamespaces_fix {s : Sheet} (hc : NsDistinct s) : cleanNamespaces s = (s, none) := by
  have nodrop : ∀ (t : Sheet) (i : Nat) (r : Rule), t = s → ¬ Droppable (view s) t i r :=
    fun t i r ht hd => hd.2.2 (nsClean_of_nsDistinct hc r (ht ▸ List.mem_of_getElem? hd.1) hd.2.1)
  exact Prod.ext (cleanLoop_ind _ (· = s) (fun t i r ht hd _ => (nodrop t i r ht hd).elim) _ s 0 rfl)
    (cleanLoop_noraise _ (· = s) (fun t i r ht hd _ => (nodrop t i r ht hd).elim)
      (fun t i r ht hd => (nodrop t i r ht hd).elim) _ s 0 rfl)

/-! ### the parser accepts such a list as it stands -/

theorem nsRules_append (a b : Sheet) : nsRules (a ++ b) = nsRules a ++ nsRules b := by
  simp [nsRules]

theorem nsRules_cons_ns {r : Rule} (hk : r.kind = .namespace) (b : Sheet) : nsRules (r :: b) = r :: nsRules b := by
  simp [nsRules, isKind, hk]

theorem nsRules_cons_other {r : Rule} (hk : r.kind ≠ .namespace) (b : Sheet) : nsRules (r :: b) = nsRules b := by
  simp [nsRules, isKind, hk]

theorem pairwise_nsRules_before {R : Rule → Rule → Prop} {acc rest : Sheet} {r : Rule}
    (hc : (nsRules (acc ++ r :: rest)).Pairwise R)
    (hk : r.kind = .namespace) : ∀ x ∈ acc, x.kind = .namespace → R x r := by
  intro x hx hxk
  rw [nsRules_append, nsRules_cons_ns hk, List.pairwise_append] at hc
  exact hc.2.2 x (mem_nsRules.mpr ⟨hx, hxk⟩) r (by simp)

theorem lv3_kinds {x : Rule} (h : x.kind ∈ [Kind.media, .page, .style, .fontface]) : lv x = some 3 :=
  lv_eq_three_iff.2 h

theorem varOrd_before {acc rest : Sheet} {r : Rule} (ho : VarOrd (acc ++ r :: rest)) :
    ∀ x ∈ acc, varR x r := by
  intro x hx
  unfold VarOrd at ho
  rw [List.pairwise_append] at ho
  exact ho.2.2 x hx r (by simp)

theorem parseInsert_append (acc : Sheet) (r : Rule) (rest : Sheet) (hvv : Valid (acc ++ r :: rest))
    (hc : NsDistinct (acc ++ r :: rest)) (ho : VarOrd (acc ++ r :: rest)) :
    parseInsert true acc r = (acc ++ [r], true) := by
  have hvar : ∀ x ∈ acc, varR x r := varOrd_before ho
  -- nothing of level 3 stands in front of a rule of level 1 or 2
  have body : ∀ m, lv r = some m → m ≤ 2 → ∀ x ∈ acc, x.kind ∉ [Kind.media, .page, .style, .fontface] :=
    fun m hm hle x hx hxk => by have := (pivot hvv hm).1 x hx 3 (lv3_kinds hxk); omega
  have href : refuses acc r acc.length = false := by
    unfold refuses
    have hhead : (decide (acc.length = 0) && headIs acc .charset) = false := by
      simpa using headIs_of_length_eq_zero (s := acc) .charset
    simp only [List.take_length, List.drop_length, List.any_nil, hhead, Bool.false_or]
    cases hk : r.kind with
    | charset =>
      obtain rfl := prefix_nil_of_valid_charset hvv hk
      rfl
    | «import» =>
      have hl : lv r = some 1 := lv_of_kind hk
      apply any_kindIn_false.2
      intro x hx hxk
      rcases List.mem_cons.1 hxk with h | hxk
      · have := (pivot hvv hl).1 x hx 2 (lv_of_kind h); omega
      · rcases List.mem_cons.1 hxk with h | hxk
        · exact ((hvar x hx).1 h).1 hk
        · exact body 1 hl (by omega) x hx hxk
    | «namespace» =>
      have hl : lv r = some 2 := lv_of_kind hk
      apply any_kindIn_false.2
      intro x hx hxk
      rcases List.mem_cons.1 hxk with h | hxk
      · exact ((hvar x hx).1 h).2 hk
      · exact body 2 hl (Nat.le_refl _) x hx hxk
    | variables => exact any_kindIn_false.2 fun x hx => (hvar x hx).2 hk
    | unknown | comment | margin | style | media | page | fontface => rfl
  have hcommit : commit acc r false acc.length = (acc ++ [r], .ok acc.length) := by
    unfold commit
    split
    · rename_i hk
      have hget : ¬ dictGet (view acc) r.p = some r.u := by
        intro hg
        obtain ⟨r', hr', hk', hp', _⟩ := view_sound acc _ _ ((dictGet_eq_some_iff (view_ok acc)).1 hg)
        exact (pairwise_nsRules_before hc hk r' hr' hk').1 hp'
      simp [hget, insertAt_length]
    · rw [insertAt_length]
  unfold parseInsert
  rw [insertRule_index, Option.getD_none, insertRule_at true acc r _ false (Nat.le_refl _), href, if_neg (by simp),
    hcommit]

/-- what the parser's `expected` level can be while reading such a sheet -/
def ExpectedOK (expected : Nat) (acc : Sheet) : Prop :=
  (acc = [] → expected = 0) ∧
  (expected ≤ 1 ∨ (expected = 2 ∧ ∃ x ∈ acc, x.kind = .namespace ∨ x.kind = .variables) ∨
    ∃ x ∈ acc, lv x = some 3)

theorem parseLoop_accepts : ∀ (rest acc : Sheet) (expected : Nat) (ok : Bool),
    Valid (acc ++ rest) → NsDistinct (acc ++ rest) → VarOrd (acc ++ rest) → ExpectedOK expected acc →
    parseLoop true rest expected acc ok = (acc ++ rest, ok) := by
  intro rest
  induction rest with
  | nil => intro acc e ok _ _ _ _; simp [parseLoop]
  | cons r rest ih =>
    intro acc expected ok hv hc ho hinv
    have hins := parseInsert_append acc r rest hv hc ho
    have hassoc : acc ++ r :: rest = (acc ++ [r]) ++ rest := by simp
    have hvar : ∀ x ∈ acc, varR x r := varOrd_before ho
    have hl3 : ∀ m, lv r = some m → m ≤ 2 → ¬ ∃ x ∈ acc, lv x = some 3 :=
      fun m hm hle ⟨x, hx, hx3⟩ => by have := (pivot hv hm).1 x hx 3 hx3; omega
    have hlate : tooLate r.kind expected = false := by
      unfold tooLate
      cases hk : r.kind with
      | charset => simp [hinv.1 (prefix_nil_of_valid_charset hv hk)]
      | «import» =>
        have hl : lv r = some 1 := lv_of_kind hk
        rcases hinv.2 with h | ⟨_, x, hx, hxk⟩ | h3
        · simpa using h
        · rcases hxk with h | h
          · have := (pivot hv hl).1 x hx 2 (lv_of_kind h); omega
          · exact absurd hk ((hvar x hx).1 h).1
        · exact absurd h3 (hl3 1 hl (by omega))
      | «namespace» =>
        have hl : lv r = some 2 := lv_of_kind hk
        rcases hinv.2 with h | ⟨h, _⟩ | h3
        · simp; omega
        · simp [h]
        · exact absurd h3 (hl3 2 hl (Nat.le_refl _))
      | variables =>
        rcases hinv.2 with h | ⟨h, _⟩ | ⟨x, hx, hx3⟩
        · simp; omega
        · simp [h]
        · exact absurd (lv_eq_three_iff.1 hx3) ((hvar x hx).2 hk)
      | unknown | comment | margin | style | media | page | fontface => rfl
    have hpfx : ¬ (r.kind = .namespace ∧ acc.any (fun x => x.kind = .namespace && x.p = r.p) = true) := by
      rintro ⟨hk, hb⟩
      obtain ⟨x, hx, hxe⟩ := List.any_eq_true.mp hb
      simp only [Bool.and_eq_true, decide_eq_true_eq] at hxe
      exact (pairwise_nsRules_before hc hk x hx hxe.1).1 hxe.2
    have hinv' : ExpectedOK (nextLevel r.kind expected) (acc ++ [r]) := by
      refine ⟨fun h => absurd h (by simp), ?_⟩
      unfold nextLevel
      cases hk : r.kind with
      | charset | «import» => exact Or.inl (Nat.le_refl _)
      | «namespace» => exact Or.inr (Or.inl ⟨rfl, r, by simp, Or.inl hk⟩)
      | variables => exact Or.inr (Or.inl ⟨rfl, r, by simp, Or.inr hk⟩)
      | unknown | comment | margin =>
        rcases hinv.2 with h | ⟨h, x, hx, hxk⟩ | ⟨x, hx, hx3⟩
        · left; simp only; omega
        · right; left; exact ⟨by simp only; omega, x, List.mem_append_left _ hx, hxk⟩
        · right; right; exact ⟨x, List.mem_append_left _ hx, hx3⟩
      | style | media | page | fontface => exact Or.inr (Or.inr ⟨r, by simp, lv_of_kind hk⟩)
    rw [parseLoop_cons, hlate, if_neg (by simp), if_neg hpfx, hins, Bool.and_true, hassoc]
    exact ih _ _ _ (hassoc ▸ hv) (hassoc ▸ hc) (hassoc ▸ ho) hinv'

theorem reparse_same_full (s : Sheet) (hv : Valid s) (hc : NsDistinct s) (ho : VarOrd s) :
    parseSheet true s = s ∧ (parseLoop true s 0 [] true).2 = true := by
  have h := parseLoop_accepts s [] 0 true (by simpa using hv) (by simpa using hc) (by simpa using ho)
    ⟨fun _ => rfl, Or.inl (by omega)⟩
  simp only [List.nil_append] at h
  refine ⟨?_, by rw [h]⟩
  simp only [parseSheet, h, cleanNamespaces_fix hc]

theorem nsdistinct_of_plain {s : Sheet} (hp : plain s) : NsDistinct s := by
  have : nsRules s = [] := List.filter_eq_nil_iff.mpr fun x hx => by simpa [isKind] using (hp x hx).1
  unfold NsDistinct
  rw [this]
  exact List.Pairwise.nil

theorem nsDistinct_of_cleanNamespaces {s s' : Sheet} (hp : DeclsDistinct s) (h : cleanNamespaces s = (s', none)) : NsDistinct s' := by
  have hsub : s'.Sublist s := by
    have := cleanNamespaces_sublist s
    rw [h] at this; exact this
  -- the rules left differ pairwise in (prefix, URI) and all stand in the mapping, which is one-to-one
  apply List.Pairwise.imp_of_mem _ (List.Pairwise.sublist (nsRules_sublist hsub) hp)
  intro a b ha hb hab
  have ha' := mem_nsRules.mp ha
  have hb' := mem_nsRules.mp hb
  have hia := cleanNamespaces_done h a ha'.1 ha'.2
  have hib := cleanNamespaces_done h b hb'.1 hb'.2
  refine ⟨fun he => ?_, fun he => ?_⟩
  · rw [he] at hia
    exact hab ⟨he, dict_key_inj (view_ok s) hia hib⟩
  · rw [he] at hia
    exact hab ⟨dict_val_inj (view_ok s) hia hib, he⟩

/-! ### with distinct prefixes the clean-up never meets a protected rule -/

theorem shadowed_init {s : Sheet} (hp : PfxOK s) : Shadowed (view s) s := by
  intro r hr hk hni _
  have hrn : r ∈ nsRules s := mem_nsRules.mpr ⟨hr, hk⟩
  rcases view_covers s r hr hk with h | h
  · -- the prefix is bound by an effective rule, which with distinct prefixes is `r` itself
    obtain ⟨r', hr', hk', hp', hx⟩ := view_hasKey h
    rcases pw_cases (fun _ _ h e => h e.symm) hp (mem_nsRules.mpr ⟨hr', hk'⟩) hrn with rfl | hne
    · exact absurd hx hni
    · exact absurd hp' hne
  · obtain ⟨r', hr', hk', hu', hx⟩ := view_hasVal h
    exact ⟨r', hr', hk', hu', hx⟩

theorem nsDistinct_cleanNamespaces {s : Sheet} (hp : PfxOK s) : NsDistinct (cleanNamespaces s).1 := by
  have h2 := cleanNamespaces_noraise (shadowed_init hp)
  apply nsDistinct_of_cleanNamespaces (List.Pairwise.imp (fun hab he => hab he.1) hp) (s' := (cleanNamespaces s).1)
  rw [← h2]

theorem nsRules_insertAt_other (s : Sheet) (i : Nat) {r : Rule} (hk : r.kind ≠ .namespace) :
    nsRules (insertAt s i r) = nsRules s := filter_insertAt _ s i (by simp [isKind, hk])

theorem pairwise_insertAt {R : Rule → Rule → Prop} {s : Sheet} {r : Rule} (i : Nat) (hk : r.kind = .namespace)
    (h : (nsRules s).Pairwise R) (hr : ∀ x ∈ s, x.kind = .namespace → R x r ∧ R r x) :
    (nsRules (insertAt s i r)).Pairwise R := by
  have hr' : ∀ x ∈ nsRules s, R x r ∧ R r x := fun x hx => hr x (mem_nsRules.mp hx).1 (mem_nsRules.mp hx).2
  rw [insertAt_eq, nsRules_append, nsRules_cons_ns hk]
  rw [← List.take_append_drop i s, nsRules_append] at h hr'
  rw [List.pairwise_append] at h
  rw [List.pairwise_append, List.pairwise_cons]
  refine ⟨h.1, ⟨fun x hx => (hr' x (List.mem_append_right _ hx)).2, h.2.1⟩, fun x hx y hy => ?_⟩
  rcases List.mem_cons.mp hy with rfl | hy'
  · exact (hr' x (List.mem_append_left _ hx)).1
  · exact h.2.2 x hx y hy'

theorem nsRules_head_charset {h : Rule} (t : Sheet) (q : Nat) (hk : h.kind = .charset) :
    nsRules ({ h with p := q } :: t) = nsRules (h :: t) := by
  rw [nsRules_cons_other (by simp [hk]), nsRules_cons_other (by simp [hk])]

theorem insertRule_nsdistinct (s : Sheet) (hc : NsDistinct s) (r : Rule) (index : Option Nat) (inOrder : Bool) :
    NsDistinct (insertRule true s r index inOrder true).1 := by
  have h := insertRule_outcome true s r index inOrder true
  generalize insertRule true s r index inOrder true = out at h
  cases h with
  | refused | declared => exact hc
  | relabel h t hs hk => subst hs; unfold NsDistinct; rw [nsRules_head_charset t _ hk]; exact hc
  | put i _ hcl =>
    unfold NsDistinct
    rw [nsRules_insertAt_other s i fun hk => by cases hcl hk]
    exact hc
  | cleaned i s' _ hk _ hg hcn =>
    refine nsDistinct_of_cleanNamespaces (pairwise_insertAt i hk (List.Pairwise.imp (fun hab he => hab.1 he.1) hc) ?_) hcn
    intro x hx hxk
    have hne : ¬ (x.p = r.p ∧ x.u = r.u) := by
      rintro ⟨h1, h2⟩
      have := (dictGet_eq_some_iff (view_ok s)).2 (nsClean_of_nsDistinct hc x hx hxk)
      rw [h1, h2] at this
      exact hg this
    exact ⟨hne, fun he => hne ⟨he.1.symm, he.2.symm⟩⟩

theorem insertRule_pfxok (acc : Sheet) (r : Rule) (hp : PfxOK acc)
    (hnew : r.kind = .namespace → ∀ x ∈ acc, x.kind = .namespace → x.p ≠ r.p) :
    PfxOK (insertRule true acc r none false false).1 := by
  have h := insertRule_outcome true acc r none false false
  generalize insertRule true acc r none false false = out at h
  cases h with
  | refused | declared => exact hp
  | relabel h t hs hk => subst hs; unfold PfxOK; rw [nsRules_head_charset t _ hk]; exact hp
  | cleaned _ _ _ _ hcl => cases hcl
  | put i =>
    by_cases hk : r.kind = .namespace
    · exact pairwise_insertAt i hk hp fun x hx hxk => ⟨hnew hk x hx hxk, fun he => hnew hk x hx hxk he.symm⟩
    · unfold PfxOK
      rw [nsRules_insertAt_other acc i hk]; exact hp

theorem pfxok_update (acc : Sheet) (p u : Nat) (hp : PfxOK acc) : PfxOK (acc.map (redeclare p u)) := by
  unfold PfxOK nsRules
  rw [List.filter_map, List.pairwise_map]
  have : isKind Kind.namespace ∘ redeclare p u = isKind Kind.namespace :=
    funext fun x => by simp only [Function.comp, isKind, redeclare_kind]
  rw [this]
  refine List.Pairwise.imp (fun hab => ?_) hp
  unfold pfxR at hab ⊢
  rwa [redeclare_p, redeclare_p]

theorem parseSheet_nsdistinct (rs : List Rule) : NsDistinct (parseSheet true rs) :=
  nsDistinct_cleanNamespaces <| parseLoop_ind PfxOK (fun _ => True) true (fun acc r _ hnew hp => insertRule_pfxok acc r hp hnew)
    pfxok_update rs 0 [] true (fun _ _ => trivial) List.Pairwise.nil

theorem step_nsdistinct (s : Sheet) (hc : NsDistinct s) (op : Op) : NsDistinct (step true s op).1 :=
  step_ind NsDistinct true s op hc (fun r i o _ => insertRule_nsdistinct s hc r i o)
    (fun i => nsdistinct_sublist (deleteRule_sublist s i) hc)
    (fun h t q hs hk => by subst hs; unfold NsDistinct; rw [nsRules_head_charset t q hk]; exact hc)
    (fun rs _ => parseSheet_nsdistinct rs)

def OpNoVar : Op → Prop
  | .insert r _ _ => r.kind ≠ .variables
  | .assign rs => ∀ r ∈ rs, r.kind ≠ .variables
  | _ => True

instance (op : Op) : Decidable (OpNoVar op) := by
  cases op <;> simp only [OpNoVar] <;> infer_instance

theorem noVariables_sublist {s s' : Sheet} (h : s'.Sublist s) (hn : noVariables s) : noVariables s' :=
  fun x hx => hn x (h.subset hx)

theorem noVariables_insertAt {s : Sheet} (i : Nat) {r : Rule} (hn : noVariables s) (hr : r.kind ≠ .variables) :
    noVariables (insertAt s i r) :=
  fun x hx => (mem_insertAt.1 hx).elim (hn x) fun h => h ▸ hr

theorem noVariables_relabel {h : Rule} {t : Sheet} (q : Nat) (hn : noVariables (h :: t)) :
    noVariables ({ h with p := q } :: t) := by
  intro x hx
  rcases List.mem_cons.mp hx with rfl | hx'
  · exact hn h (by simp)
  · exact hn x (List.mem_cons_of_mem _ hx')

theorem insertRule_noVariables {s : Sheet} (hn : noVariables s) {r : Rule} (hr : r.kind ≠ .variables)
    (index : Option Nat) (inOrder clean : Bool) : noVariables (insertRule true s r index inOrder clean).1 := by
  have h := insertRule_outcome true s r index inOrder clean
  generalize insertRule true s r index inOrder clean = out at h
  cases h with
  | refused | declared => exact hn
  | relabel h t hs => subst hs; exact noVariables_relabel _ hn
  | put i => exact noVariables_insertAt i hn hr
  | cleaned i s' _ _ _ _ hcn =>
    have hsub := cleanNamespaces_sublist (insertAt s i r)
    rw [hcn] at hsub
    exact noVariables_sublist hsub (noVariables_insertAt i hn hr)

theorem parseSheet_noVariables (rs : List Rule) (hrs : ∀ r ∈ rs, r.kind ≠ .variables) :
    noVariables (parseSheet true rs) := by
  refine noVariables_sublist (cleanNamespaces_sublist _)
    (parseLoop_ind noVariables (·.kind ≠ .variables) true ?_ ?_ rs 0 [] true hrs (fun x hx => by cases hx))
  · exact fun acc r hr _ hn => insertRule_noVariables hn hr none false false
  · intro acc p u hn x hx
    obtain ⟨y, hy, rfl⟩ := List.mem_map.mp hx
    rw [redeclare_kind]
    exact hn y hy

theorem step_noVariables (s : Sheet) (hn : noVariables s) (op : Op) (ho : OpNoVar op) :
    noVariables (step true s op).1 := by
  refine step_ind noVariables true s op hn ?_ (fun i => noVariables_sublist (deleteRule_sublist s i) hn) ?_ ?_
  · rintro r i o (rfl | hk | hk)
    · exact insertRule_noVariables hn ho i o true
    · exact insertRule_noVariables hn (by simp [hk]) i o true
    · exact insertRule_noVariables hn (by simp [hk]) i o true
  · rintro h t q rfl _
    exact noVariables_relabel q hn
  · rintro rs rfl
    exact parseSheet_noVariables rs ho

end CssVerif.Sheet
