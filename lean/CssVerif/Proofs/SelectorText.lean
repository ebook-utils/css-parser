/-
C16, from selector TEXT to the merged token stream.

`Sel.lex` writes a selector of the level-3 grammar (`Model/SelectorAst.lean`) as a sequence of C09 lexemes
(`C09.Lexeme`): identifiers for type / class / pseudo / attribute names, `#name` hashes, the delimiters
`. : [ ] ( ) * |`, the combinators `> + ~`, one blank for the descendant combinator and for every blank
of the `Layout` of an explicit combinator, FUNCTION lexemes for functional pseudo-classes and `:not(`,
match-operator lexemes, identifiers or strings as attribute values, numbers / dimensions / identifiers /
strings / `+` / `-` / blanks as arguments of a functional pseudo-class.  No other white space and no
comments are written (layout is kept simple); names are escape-free.

Three facts are proved for every selector `σ` with `σ.NamesOK = true` (a decidable lexical condition,
see `Sel.NamesOK`):

* `prepass_lex`: the token pre-pass of `Selector._setSelectorText`, run on the expected tokens of the
  lexemes, gives exactly `σ.toks`, the token rendering the theorem `C16.specificity` starts from;
* `lex_classify`: every lexeme is generated by the token grammar, adjacent lexemes cannot merge
  (`chain canFollow`), the sequence is RATIO-free and the text does not start with a byte-order mark —
  the hypotheses of `C09.classify_sequence`;
* `lex_text`: the text written is the concatenation of the values of `σ.toks` — because the pre-pass keeps
  the text of any token list (`prepass_text`).

The last two rest on one walk through the grammar, `written_sel`: every lexeme written is of one of the
twelve kinds of `Written`.
-/
import CssVerif.Props.C09
import CssVerif.Model.SelectorAst
namespace CssVerif.Selector
open CssVerif.C09 (Lexeme canFollow chain ratioFree nameOK isNumLex signOK)

/-- optional leading `-`, first character, remaining characters of an identifier text -/
def identParts (v : Text) : Bool × Nat × Text :=
  match v with
  | c :: u :: us => if c = 45 then (true, u, us) else (false, c, u :: us)
  | [c] => (false, c, [])
  | [] => (false, 0, [])

/-- optional sign and the rest of a numeric text -/
def signParts (v : Text) : Option Nat × Text :=
  match v with
  | c :: r => if c = 43 ∨ c = 45 then (some c, r) else (none, v)
  | [] => (none, [])

def isNumCh (c : Nat) : Bool := isDigit c || c == 46

def lexIdent (v : Text) : Lexeme := .ident (identParts v).1 (identParts v).2.1 (identParts v).2.2
/-- `v` = identifier `(` -/
def lexFunc (v : Text) : Lexeme :=
  .function (identParts v.dropLast).1 (identParts v.dropLast).2.1 (identParts v.dropLast).2.2
/-- `v` = `#` name -/
def lexHash (v : Text) : Lexeme := .hash (v.getD 1 0) (v.drop 2)
/-- `v` = quote body quote -/
def lexString (v : Text) : Lexeme := .string (v.headD 0) (v.drop 1).dropLast
def lexNumber (v : Text) : Lexeme := .number (signParts v).1 (signParts v).2
def lexDim (v : Text) : Lexeme :=
  .dimension (signParts v).1 ((signParts v).2.takeWhile isNumCh)
    (identParts ((signParts v).2.dropWhile isNumCh)).1 (identParts ((signParts v).2.dropWhile isNumCh)).2.1
    (identParts ((signParts v).2.dropWhile isNumCh)).2.2

def spells (l : Lexeme) (v : Text) : Bool := l.wf && l.render == v

/-- the token the selector parser sees for a lexeme: C09's expected (type, value), the type as `TT` -/
def tokOf (l : Lexeme) : T2 := (TT.ofString l.typ, l.value)

def Pfx.lex : Pfx → List Lexeme
  | .none => []
  | .any => [.cdelim 42, .cdelim 124]
  | .empty => [.cdelim 124]
  | .named p => [lexIdent p, .cdelim 124]

def Pfx.ok : Pfx → Bool
  | .named p => spells (lexIdent p) p
  | _ => true

def ArgTok.lex : ArgTok → Lexeme
  | .ident v => lexIdent v
  | .number v => lexNumber v
  | .dimension v => lexDim v
  | .string v => lexString v
  | .plus => .cdelim 43
  | .minus => .cdelim 45
  | .ws => .ws 32 []

def ArgTok.ok (a : ArgTok) : Bool := spells a.lex a.tok.2

def AttrOp.lex : AttrOp → Lexeme
  | .eq => .delim 61
  | .pre => .prefixmatch
  | .suf => .suffixmatch
  | .sub => .substringmatch
  | .dash => .dashmatch
  | .inc => .includes

def AttrVal.lex : AttrVal → Lexeme
  | .ident v => lexIdent v
  | .string v => lexString v

def AttrVal.ok (a : AttrVal) : Bool := spells a.lex a.tok.2

def attrPfxLex : Option Text → List Lexeme
  | none => []
  | some p => (if p = [] then [] else if p = str "*" then [Lexeme.cdelim 42] else [lexIdent p]) ++ [.cdelim 124]

def attrPfxOk : Option Text → Bool
  | none => true
  | some p => p == [] || p == str "*" || spells (lexIdent p) p

/-- the same prefix as a `Pfx`: `attrPfxLex` and `attrPfxOk` are its `lex` and `ok` (`attrPfx_eq`) -/
def pfxOf : Option Text → Pfx
  | none => .none
  | some q => if q = [] then .empty else if q = [42] then .any else .named q

def Simple.lex : Simple → List Lexeme
  | .id v => [lexHash v]
  | .cls v => [.cdelim 46, lexIdent (v.drop 1)]
  | .attrib p name rhs =>
    [.fast 91] ++ attrPfxLex p ++ [lexIdent name] ++
      (match rhs with | some (op, v) => [op.lex, v.lex] | none => []) ++ [.fast 93]
  | .pclass v => [.fast 58, lexIdent (v.drop 1)]
  | .pfunc v a args => [.fast 58, lexFunc (v.drop 1)] ++ (a :: args).map ArgTok.lex ++ [.delim 41]

/-- lexical conditions on the names of a simple selector.  For a functional pseudo-class: the name is
not `not` in any case (the pre-pass would make it a negation), every argument token is a lexeme of the
token grammar, and adjacent arguments cannot merge (`2n` `-1` without a blank is the one DIMENSION
`2n-1`, `+` `1` is the NUMBER `+1`). -/
def Simple.ok : Simple → Bool
  | .id v => spells (lexHash v) v
  | .cls v => v.head? == some 46 && spells (lexIdent (v.drop 1)) (v.drop 1)
  | .attrib p name rhs =>
    attrPfxOk p && spells (lexIdent name) name && (match rhs with | some (_, v) => v.ok | none => true)
  | .pclass v => v.head? == some 58 && spells (lexIdent (v.drop 1)) (v.drop 1)
  | .pfunc v a args =>
    v.head? == some 58 && spells (lexFunc (v.drop 1)) (v.drop 1) && lowerT (v.drop 1) != str "not(" &&
      (a :: args).all ArgTok.ok && chain canFollow ((a :: args).map ArgTok.lex)

def NegArg.lex : NegArg → List Lexeme
  | .type p name => p.lex ++ [lexIdent name]
  | .universal p => p.lex ++ [.cdelim 42]
  | .simple s => s.lex

def NegArg.ok : NegArg → Bool
  | .type p name => p.ok && spells (lexIdent name) name
  | .universal p => p.ok
  | .simple s => s.ok

/-- the FUNCTION lexeme `not(` -/
def notLex : Lexeme := .function false 110 [111, 116]

def Part.lex : Part → List Lexeme
  | .simple s => s.lex
  | .neg a => [.fast 58, notLex] ++ a.lex ++ [.delim 41]

def Part.ok : Part → Bool
  | .simple s => s.ok
  | .neg a => a.ok

def Head.lex : Head → List Lexeme
  | .type p name => p.lex ++ [lexIdent name]
  | .universal p => p.lex ++ [.cdelim 42]

def Head.ok : Head → Bool
  | .type p name => p.ok && spells (lexIdent name) name
  | .universal p => p.ok

def PElem.lex : PElem → List Lexeme
  | .dbl v => [.fast 58, .fast 58, lexIdent (v.drop 2)]
  | .legacy v => [.fast 58, lexIdent (v.drop 1)]

def PElem.ok : PElem → Bool
  | .dbl v => v.take 2 == [58, 58] && spells (lexIdent (v.drop 2)) (v.drop 2)
  | .legacy v => v.head? == some 58 && spells (lexIdent (v.drop 1)) (v.drop 1)

def Compound.lex (c : Compound) : List Lexeme :=
  (c.head.map Head.lex).getD [] ++ c.parts.flatMap Part.lex ++ (c.pelem.map PElem.lex).getD []

def Compound.ok (c : Compound) : Bool :=
  (match c.head with | some h => h.ok | none => true) && c.parts.all Part.ok &&
    (match c.pelem with | some e => e.ok | none => true) &&
    (c.head.isSome || !c.parts.isEmpty || c.pelem.isSome)

def blank : Lexeme := .ws 32 []

def Comb.lex (c : Comb) (l : Layout) : List Lexeme :=
  match c with
  | .descendant => [blank]
  | .child => (if l.before then [blank] else []) ++ [.fast 62] ++ (if l.after then [blank] else [])
  | .adjacent => (if l.before then [blank] else []) ++ [.cdelim 43] ++ (if l.after then [blank] else [])
  | .following => (if l.before then [blank] else []) ++ [.cdelim 126] ++ (if l.after then [blank] else [])

def Sel.lex (s : Sel) : List Lexeme :=
  s.first.lex ++ s.rest.flatMap (fun x => x.1.lex x.2.1 ++ x.2.2.lex)

def Sel.text (s : Sel) : Text := s.lex.flatMap Lexeme.render

/-! ### the two places where the neighbours matter -/

/-- the identifier `u` / `U` -/
def isUText (v : Text) : Bool := lowerT v == [117]

def Head.endsU : Head → Bool
  | .type _ name => isUText name
  | .universal _ => false

def Part.endsU : Part → Bool
  | .simple (.cls v) => isUText (v.drop 1)
  | .simple (.pclass v) => isUText (v.drop 1)
  | _ => false

def PElem.endsU : PElem → Bool
  | .dbl v => isUText (v.drop 2)
  | .legacy v => isUText (v.drop 1)

def lastPartU : List Part → Bool
  | [] => false
  | [p] => p.endsU
  | _ :: ps => lastPartU ps

def Compound.endsU (c : Compound) : Bool :=
  match c.pelem with
  | some e => e.endsU
  | none => if c.parts.isEmpty then (match c.head with | some h => h.endsU | none => false) else lastPartU c.parts

def Compound.startsDot (c : Compound) : Bool :=
  c.head.isNone && (match c.parts with | .simple (.cls _) :: _ => true | _ => false)

/-- the compounds after the first: names, and the two neighbour conditions at the combinator `+` written
without a blank — `u+…` is a UNICODE-RANGE for the tokenizer, and `+.` is outside the (one-character)
stop condition `C09.ctxStop` of the delimiter `+` -/
def restOk : Compound → List (Comb × Layout × Compound) → Bool
  | _, [] => true
  | c0, (cb, l, c) :: r =>
    c.ok && !(cb == .adjacent && !l.before && c0.endsU) && !(cb == .adjacent && !l.after && c.startsDot) &&
      restOk c r

/-- **the lexical side condition.**  Every name of the selector is an escape-free name of the token
grammar spelled as its token value says (`spells`); compounds are not empty; the arguments of a
functional pseudo-class are lexemes that cannot merge; at a `+` combinator written without blanks the
compound before does not end with the identifier `u`/`U` and the compound after does not start with `.`;
the text does not start with a byte-order mark. -/
def Sel.NamesOK (s : Sel) : Bool :=
  s.first.ok && restOk s.first s.rest && !startsWithBom s.text

/-! ## part 1: the pre-pass gives the token rendering of the grammar -/

theorem spells_iff {l : Lexeme} {v : Text} : spells l v = true ↔ l.wf = true ∧ l.render = v := by
  simp [spells]

theorem render_of {l : Lexeme} {v : Text} (h : spells l v = true) : l.render = v := (spells_iff.mp h).2

/-- the token type of a lexeme, as a `TT`; spelled out for the classes a selector is written with -/
def lexType : Lexeme → TT
  | .ws _ _ => .s
  | .fast _ | .delim _ | .cdelim _ => .char
  | .includes => .includes
  | .dashmatch => .dashmatch
  | .prefixmatch => .prefixmatch
  | .suffixmatch => .suffixmatch
  | .substringmatch => .substringmatch
  | .number _ _ => .number
  | .dimension _ _ _ _ _ => .dimension
  | .ident _ _ _ => .ident
  | .function _ _ _ => .func
  | .hash _ _ => .hash
  | .string _ _ => .string
  | l => TT.ofString l.typ

/-- the only place where the type strings are evaluated (by the kernel; the elaborator is slow at it) -/
theorem tokOf_eq (l : Lexeme) : tokOf l = (lexType l, l.value) := by
  refine congrArg (·, l.value) (?_ : TT.ofString l.typ = lexType l)
  cases l <;> dsimp only [Lexeme.typ, lexType] <;> decide +kernel

theorem tok_fast (c : Nat) : tokOf (.fast c) = (.char, [c]) := tokOf_eq _
theorem tok_delim (c : Nat) : tokOf (.delim c) = (.char, [c]) := tokOf_eq _
theorem tok_cdelim (c : Nat) : tokOf (.cdelim c) = (.char, [c]) := tokOf_eq _
theorem tok_blank : tokOf blank = (.s, [32]) := tokOf_eq _

theorem tok_of_spells {l : Lexeme} {v : Text} (h : spells l v = true) (hv : l.value = l.render) :
    tokOf l = (lexType l, v) := by
  rw [tokOf_eq, hv, render_of h]

theorem s_colon : str ":" = [58] := by decide +kernel
theorem s_dcolon : str "::" = [58, 58] := by decide +kernel
theorem s_star : str "*" = [42] := by decide +kernel
theorem s_bar : str "|" = [124] := by decide +kernel
theorem s_dot : str "." = [46] := by decide +kernel
theorem s_lpar : str "(" = [40] := by decide +kernel
theorem s_rpar : str ")" = [41] := by decide +kernel
theorem s_not : str "not(" = [110, 111, 116, 40] := by decide +kernel
theorem s_cnot : str ":not(" = [58, 110, 111, 116, 40] := by decide +kernel
theorem s_sp : str " " = [32] := by decide +kernel
theorem s_gt : str ">" = [62] := by decide +kernel
theorem s_plus : str "+" = [43] := by decide +kernel
theorem s_minus : str "-" = [45] := by decide +kernel
theorem s_tilde : str "~" = [126] := by decide +kernel
theorem s_lbr : str "[" = [91] := by decide +kernel
theorem s_rbr : str "]" = [93] := by decide +kernel
theorem s_eq : str "=" = [61] := by decide +kernel
theorem s_anybar : str "*|" = [42, 124] := by decide +kernel

/-- does not start with `:` `*` `|`, is not `.` -/
def Plain (v : Text) : Prop := ∃ c r, v = c :: r ∧ c ≠ 58 ∧ c ≠ 42 ∧ c ≠ 124 ∧ (r = [] → c ≠ 46)

theorem plain_facts {v : Text} (h : Plain v) :
    v ≠ [58] ∧ v ≠ [42] ∧ v ≠ [124] ∧ v ≠ [46] ∧ startsWith v [58] = false := by
  obtain ⟨c, r, rfl, h58, h42, h124, h46⟩ := h
  refine ⟨by simp [h58], by simp [h42], by simp [h124], fun h => ?_,
    by simp [startsWith, List.isPrefixOf, Ne.symm h58]⟩
  cases h
  exact h46 rfl rfl

theorem plain_single (c : Nat) (h : c ≠ 58 ∧ c ≠ 42 ∧ c ≠ 124 ∧ c ≠ 46) : Plain [c] :=
  ⟨c, [], rfl, h.1, h.2.1, h.2.2.1, fun _ => h.2.2.2⟩

def IdVal (v : Text) : Prop := v ≠ [] ∧ ∀ x ∈ v, isNmChar x = true

theorem spells_ident {v : Text} (h : spells (lexIdent v) v = true) :
    ∃ m u us, lexIdent v = .ident m u us ∧ isNmStart u = true ∧ (∀ x ∈ us, isNmChar x = true) ∧
      identLex m u us = v := by
  obtain ⟨h1, h2⟩ := spells_iff.mp h
  exact ⟨_, _, _, rfl, (C09.nameOK_spec h1).1, (C09.nameOK_spec h1).2, h2⟩

theorem identLex_idVal (m : Bool) (u : Nat) (us : Text) (hu : isNmStart u = true)
    (hus : ∀ x ∈ us, isNmChar x = true) : IdVal (identLex m u us) :=
  ⟨by cases m <;> simp [identLex], identLex_nmchars m u us hu hus⟩

theorem idVal_of_spells {v : Text} (h : spells (lexIdent v) v = true) : IdVal v := by
  obtain ⟨m, u, us, -, hu, hus, rfl⟩ := spells_ident h
  exact identLex_idVal m u us hu hus

theorem tok_ident {v : Text} (h : spells (lexIdent v) v = true) : tokOf (lexIdent v) = (.ident, v) :=
  tok_of_spells h rfl

theorem idVal_head {v : Text} (h : IdVal v) : ∃ c r, v = c :: r ∧ isNmChar c = true := by
  obtain ⟨hne, hall⟩ := h
  cases v with
  | nil => exact absurd rfl hne
  | cons c r => exact ⟨c, r, rfl, hall c List.mem_cons_self⟩

theorem nm_ne {c d : Nat} (h : isNmChar c = true) (hd : isNmChar d = false) : c ≠ d := by
  intro he; subst he; rw [h] at hd; cases hd

theorem idVal_plain {v : Text} (h : IdVal v) : Plain v := by
  obtain ⟨c, r, rfl, hc⟩ := idVal_head h
  exact ⟨c, r, rfl, nm_ne hc (by decide), nm_ne hc (by decide), nm_ne hc (by decide), fun _ => nm_ne hc (by decide)⟩

theorem idVal_nobar {v : Text} (h : IdVal v) : v.contains 124 = false := by
  cases hb : v.contains 124 with
  | false => rfl
  | true => exact absurd (h.2 124 (by simpa using hb)) (by decide)

abbrev pstep := prepassStep Gen.tables
def pp (acc : List T2) (ts : List T2) : List T2 := ts.foldl pstep acc

@[simp] theorem pp_nil (acc : List T2) : pp acc [] = acc := rfl
@[simp] theorem pp_cons (acc : List T2) (t : T2) (ts : List T2) : pp acc (t :: ts) = pp (pstep acc t) ts := rfl
theorem pp_append (acc : List T2) (a b : List T2) : pp acc (a ++ b) = pp (pp acc a) b := by
  simp [pp, List.foldl_append]

theorem pstep_nil (t : T2) :
    pstep [] t = if t.2 = [42] then [(.universal, t.2)] else if t.2 = [124] then [(.nsprefix, t.2)] else [t] := by
  simp [pstep, prepassStep, s_star, s_bar]

theorem pstep_char (l : T2) (rest : List T2) (c : Nat) :
    pstep (l :: rest) (.char, [c]) =
      if c = 58 ∧ l.2 = [58] then (.char, [58, 58]) :: rest
      else if c = 42 ∧ l.1 = .nsprefix ∧ endsWith l.2 [124] = true then (.universal, l.2 ++ [c]) :: rest
      else if c = 42 then (.universal, [c]) :: l :: rest
      else if c = 124 ∧ (l.1 = .ident ∨ l.1 = .universal) ∧ l.2.contains 124 = false then
        (.nsprefix, l.2 ++ [124]) :: rest
      else if c = 124 then (.nsprefix, [c]) :: l :: rest
      else (.char, [c]) :: l :: rest := by
  simp [pstep, prepassStep, s_colon, s_dcolon, s_star, s_bar, and_assoc]

def pseudoType (v : Text) : TT := if startsWith v [58, 58] then .pelem else .pclass

theorem pstep_ident (l : T2) (rest : List T2) (v : Text) (hv : Plain v) :
    pstep (l :: rest) (.ident, v) =
      if l.2 = [46] then (.cls, 46 :: v) :: rest
      else if startsWith l.2 [58] = true ∧ endsWith l.2 [40] = false then (pseudoType l.2, l.2 ++ v) :: rest
      else (.ident, v) :: l :: rest := by
  obtain ⟨h1, h2, h3, -, -⟩ := plain_facts hv
  simp [pstep, prepassStep, pseudoType, s_colon, s_dcolon, s_star, s_bar, s_dot, s_lpar, h1, h2, h3]

theorem pstep_func (l : T2) (rest : List T2) (w : Text) (hw : Plain w) :
    pstep (l :: rest) (.func, w) =
      if normalize Gen.tables w = [110, 111, 116, 40] ∧ l.2 = [58] then (.negation, 58 :: w) :: rest
      else if startsWith l.2 [58] = true then (pseudoType l.2, l.2 ++ w) :: rest
      else (.func, w) :: l :: rest := by
  obtain ⟨h1, h2, h3, -, -⟩ := plain_facts hw
  simp [pstep, prepassStep, pseudoType, s_colon, s_dcolon, s_star, s_bar, s_not, h1, h2, h3]

theorem pstep_push (acc : List T2) (t : T2) (hident : t.1 ≠ .ident) (hfunc : t.1 ≠ .func) (hcolon : t.2 ≠ [58])
    (hstar : t.2 ≠ [42]) (hbar : t.2 ≠ [124]) : pstep acc t = t :: acc := by
  cases acc <;> simp [pstep, prepassStep, s_colon, s_star, s_bar, hident, hfunc, hcolon, hstar, hbar]

theorem pstep_plain (acc : List T2) (t : T2) (hp : Plain t.2) (hident : t.1 ≠ .ident) (hfunc : t.1 ≠ .func) :
    pstep acc t = t :: acc := by
  obtain ⟨hcolon, hstar, hbar, -, -⟩ := plain_facts hp
  exact pstep_push acc t hident hfunc hcolon hstar hbar

theorem pstep_char_push (acc : List T2) (c : Nat) (h : c ≠ 58 ∧ c ≠ 42 ∧ c ≠ 124) :
    pstep acc (.char, [c]) = (.char, [c]) :: acc := by
  apply pstep_push <;> simp [h.1, h.2.1, h.2.2]

theorem pstep_blank (acc : List T2) : pstep acc (.s, [32]) = (.s, [32]) :: acc :=
  pstep_push acc _ nofun nofun (by decide) (by decide) (by decide)

/-- an identifier is pushed unless the previous value is `.` or `:name` -/
def IdentReady (acc : List T2) : Prop :=
  ∀ l ∈ acc.head?, l.2 ≠ [46] ∧ ¬(startsWith l.2 [58] = true ∧ endsWith l.2 [40] = false)

theorem identReady_cons (t : T2) (acc : List T2) (h1 : t.2 ≠ [46])
    (h2 : ¬(startsWith t.2 [58] = true ∧ endsWith t.2 [40] = false)) : IdentReady (t :: acc) := by
  intro l hl; cases hl; exact ⟨h1, h2⟩

theorem identReady_plain (t : T2) (acc : List T2) (hp : Plain t.2) : IdentReady (t :: acc) := by
  obtain ⟨-, -, -, hdot, hstart⟩ := plain_facts hp
  exact identReady_cons t acc hdot (by simp [hstart])

theorem pstep_ident_push (acc : List T2) (v : Text) (hv : IdVal v) (hl : IdentReady acc) :
    pstep acc (.ident, v) = (.ident, v) :: acc := by
  have hp := idVal_plain hv
  obtain ⟨-, hstar, hbar, -, -⟩ := plain_facts hp
  cases acc with
  | nil => rw [pstep_nil, if_neg hstar, if_neg hbar]
  | cons l rest => rw [pstep_ident l rest v hp, if_neg (hl l rfl).1, if_neg (hl l rfl).2]

/-- a simple selector may follow: the previous value is not a lone `:` -/
def PartReady (acc : List T2) : Prop := ∀ l ∈ acc.head?, l.2 ≠ [58]

theorem partReady_cons (t : T2) (acc : List T2) (h : t.2 ≠ [58]) : PartReady (t :: acc) := by
  intro l hl; cases hl; exact h

theorem partReady_plain (t : T2) (acc : List T2) (hp : Plain t.2) : PartReady (t :: acc) :=
  partReady_cons t acc (plain_facts hp).1

/-- a type / universal selector with its namespace prefix may follow: the previous token is not an
identifier, a universal selector or a prefix (so `*` and `|` start afresh), an identifier is pushed after
it, and it is not a lone `:`.  So at the start, after a combinator, after `:not(` and after `[`. -/
structure HeadReady (acc : List T2) : Prop where
  typ : ∀ l ∈ acc.head?, l.1 ≠ .ident ∧ l.1 ≠ .universal ∧ l.1 ≠ .nsprefix
  ident : IdentReady acc
  part : PartReady acc

theorem headReady_plain (t : T2) (acc : List T2) (hp : Plain t.2)
    (ht : (t.1 == .ident || t.1 == .universal || t.1 == .nsprefix) = false) : HeadReady (t :: acc) :=
  ⟨fun _ h => (by cases h; simpa [and_assoc] using ht), identReady_plain t acc hp, partReady_plain t acc hp⟩

theorem pstep_colon (acc : List T2) (h : PartReady acc) : pstep acc (.char, [58]) = (.char, [58]) :: acc := by
  cases acc with
  | nil => simp [pstep_nil]
  | cons l rest => simp [pstep_char, h l rfl]

theorem pp_cls (acc : List T2) (v : Text) (hv : IdVal v) :
    pp acc [(.char, [46]), (.ident, v)] = (.cls, 46 :: v) :: acc := by
  simp only [pp_cons, pp_nil, pstep_char_push acc 46 (by decide), pstep_ident _ _ v (idVal_plain hv), if_true]

/-- after `:` (`dbl = false`) or `::` an identifier makes a pseudo-class or pseudo-element token -/
theorem pstep_pseudo (dbl : Bool) (rest : List T2) (v : Text) (hv : IdVal v) :
    pstep ((.char, if dbl then [58, 58] else [58]) :: rest) (.ident, v) =
      ((if dbl then TT.pelem else TT.pclass), (if dbl then [58, 58] else [58]) ++ v) :: rest := by
  rw [pstep_ident _ _ v (idVal_plain hv)]
  cases dbl <;> simp [pseudoType, startsWith, endsWith, List.isPrefixOf]

def FuncVal (w : Text) : Prop := ∃ name, IdVal name ∧ w = name ++ [40]

theorem funcVal_nobs {w : Text} (h : FuncVal w) : NoBs w := by
  obtain ⟨name, ⟨-, hall⟩, rfl⟩ := h
  intro c hc
  rcases List.mem_append.mp hc with h | h
  · exact (nmchar_facts (hall c h)).1
  · simp at h; omega

theorem funcVal_plain {w : Text} (h : FuncVal w) : Plain w := by
  obtain ⟨name, hname, rfl⟩ := h
  obtain ⟨c, r, rfl, h58, h42, h124, -⟩ := idVal_plain hname
  exact ⟨c, r ++ [40], rfl, h58, h42, h124, by simp⟩

theorem pp_func (acc : List T2) (w : Text) (hw : FuncVal w) (hn : lowerT w ≠ str "not(") (h : PartReady acc) :
    pp acc [(.char, [58]), (.func, w)] = (.pclass, 58 :: w) :: acc := by
  have hnorm := C09.normalize_nobs Gen.tables C09.gen_simpleescapes_bs w (funcVal_nobs hw)
  rw [s_not] at hn
  simp only [pp_cons, pp_nil, pstep_colon acc h, pstep_func _ _ w (funcVal_plain hw)]
  simp [hnorm, hn, pseudoType, startsWith]

theorem pp_not (acc : List T2) (h : PartReady acc) :
    pp acc [(.char, [58]), (.func, [110, 111, 116, 40])] = (.negation, [58, 110, 111, 116, 40]) :: acc := by
  have hp : Plain [110, 111, 116, 40] := ⟨_, _, rfl, by decide, by decide, by decide, fun h => by cases h⟩
  have norm_not : normalize Gen.tables [110, 111, 116, 40] = [110, 111, 116, 40] := by decide +kernel
  simp only [pp_cons, pp_nil, pstep_colon acc h, pstep_func _ _ _ hp]
  simp [norm_not]

theorem pstep_star_head (acc : List T2) (h : HeadReady acc) :
    pstep acc (.char, [42]) = (.universal, [42]) :: acc := by
  cases acc with
  | nil => simp [pstep_nil]
  | cons l rest => simp [pstep_char, (h.typ l rfl).2.2]

theorem pstep_bar_head (acc : List T2) (h : HeadReady acc) :
    pstep acc (.char, [124]) = (.nsprefix, [124]) :: acc := by
  cases acc with
  | nil => simp [pstep_nil]
  | cons l rest => simp [pstep_char, (h.typ l rfl).1, (h.typ l rfl).2.1]

theorem pstep_bar_merge (l : T2) (rest : List T2) (hl : l.1 = .ident ∨ l.1 = .universal)
    (hc : l.2.contains 124 = false) :
    pstep (l :: rest) (.char, [124]) = (.nsprefix, l.2 ++ [124]) :: rest := by
  rw [pstep_char, if_neg (by simp), if_neg (by simp), if_neg (by simp), if_pos ⟨rfl, hl, hc⟩]

theorem pstep_star_merge (q : Text) (rest : List T2) :
    pstep ((.nsprefix, q ++ [124]) :: rest) (.char, [42]) = (.universal, q ++ [124] ++ [42]) :: rest := by
  simp [pstep_char, endsWith]

theorem pp_pfx (acc : List T2) (p : Pfx) (h : HeadReady acc) (hp : p.ok = true) :
    pp acc (p.lex.map tokOf) = p.toks.reverse ++ acc ∧ IdentReady (p.toks.reverse ++ acc) := by
  cases p with
  | none => exact ⟨rfl, h.ident⟩
  | any =>
    simp only [Pfx.lex, Pfx.toks, s_anybar, List.map_cons, List.map_nil, tok_cdelim, pp_cons, pp_nil,
      pstep_star_head acc h]
    exact ⟨pstep_bar_merge _ _ (Or.inr rfl) (by decide), identReady_cons _ _ (by decide) (by decide)⟩
  | empty =>
    simp only [Pfx.lex, Pfx.toks, s_bar, List.map_cons, List.map_nil, tok_cdelim, pp_cons, pp_nil]
    exact ⟨pstep_bar_head acc h, identReady_cons _ _ (by decide) (by decide)⟩
  | named q =>
    have hq := idVal_of_spells hp
    obtain ⟨c, r, hcr, hc⟩ := idVal_head hq
    simp only [Pfx.lex, Pfx.toks, s_bar, List.map_cons, List.map_nil, tok_cdelim, tok_ident hp, pp_cons, pp_nil,
      pstep_ident_push acc q hq h.ident]
    refine ⟨pstep_bar_merge _ _ (Or.inl rfl) (idVal_nobar hq), identReady_cons _ _ ?_ ?_⟩
    · simp [hcr]
    · simp [hcr, startsWith, (nm_ne hc (by decide) : c ≠ 58).symm]

theorem plain_hash {v : Text} (h : spells (lexHash v) v = true) : Plain v :=
  render_of h ▸ ⟨35, _, rfl, by decide, by decide, by decide, fun h => by cases h⟩

theorem plain_string {v : Text} (h : spells (lexString v) v = true) : Plain v := by
  rw [← render_of h]
  have h1 := (spells_iff.mp h).1
  simp only [lexString, Lexeme.wf, Bool.and_eq_true, Bool.or_eq_true, beq_iff_eq] at h1
  refine ⟨_, _, rfl, ?_, ?_, ?_, by intro h; simp at h⟩ <;> rcases h1.1 with h | h <;> omega

theorem numeric_head (s : Option Nat) (num tail : Text) (hs : signOK s = true) (hn : isNumLex num = true) :
    ∃ d r, C09.signText s ++ (num ++ tail) = d :: r ∧ d ∈ 43 :: 45 :: numStarts ∧
      (r = [] → isDigit d = true) := by
  obtain ⟨c, r, rfl, h1, h2⟩ := C09.numLex_shape (C09.isNumLex_spec hn)
  cases s with
  | none =>
    exact ⟨c, r ++ tail, rfl, List.mem_cons_of_mem _ (List.mem_cons_of_mem _ h2),
      fun hr => h1 (List.append_eq_nil_iff.mp hr).1⟩
  | some x =>
    have := C09.signOK_some hs
    simp only [isSign, Bool.or_eq_true, decide_eq_true_eq] at this
    exact ⟨x, c :: r ++ tail, rfl, by rcases this with rfl | rfl <;> simp, by intro h; cases h⟩

theorem numeric_head_facts : ∀ d ∈ 43 :: 45 :: numStarts,
    d ≠ 58 ∧ d ≠ 42 ∧ d ≠ 124 ∧ d ≠ 47 ∧ C09.isWs d = false ∧ (isDigit d = true → d ≠ 46) := by
  decide +kernel

theorem plain_numeric (s : Option Nat) (num tail : Text) (hs : signOK s = true) (hn : isNumLex num = true) :
    Plain (C09.signText s ++ (num ++ tail)) := by
  obtain ⟨d, r, h, hd, h1⟩ := numeric_head s num tail hs hn
  obtain ⟨h58, h42, h124, -, -, h46⟩ := numeric_head_facts d hd
  exact ⟨d, r, h, h58, h42, h124, fun hr => h46 (h1 hr)⟩

theorem plain_number {v : Text} (h : spells (lexNumber v) v = true) : Plain v := by
  rw [← render_of h]
  have h1 := (spells_iff.mp h).1
  simp only [lexNumber, Lexeme.wf, Bool.and_eq_true] at h1
  simpa [lexNumber, Lexeme.render] using plain_numeric _ _ [] h1.1 h1.2

theorem plain_dim {v : Text} (h : spells (lexDim v) v = true) : Plain v := by
  rw [← render_of h]
  have h1 := (spells_iff.mp h).1
  simp only [lexDim, Lexeme.wf, Bool.and_eq_true] at h1
  exact plain_numeric _ _ _ h1.1.1 h1.1.2

theorem funcVal_of_spells {w : Text} (h : spells (lexFunc w) w = true) : FuncVal w := by
  obtain ⟨h1, h2⟩ := spells_iff.mp h
  simp only [lexFunc, Lexeme.wf, Bool.and_eq_true] at h1
  obtain ⟨hu, hus⟩ := C09.nameOK_spec h1.1.1
  exact ⟨_, identLex_idVal _ _ _ hu hus, h2.symm⟩

theorem arg_tok (a : ArgTok) (h : a.ok = true) :
    tokOf a.lex = a.tok ∧ Plain a.tok.2 ∧ ∀ acc, IdentReady acc → pstep acc a.tok = a.tok :: acc := by
  cases a with
  | ident v => exact ⟨tok_ident h, idVal_plain (idVal_of_spells h), fun acc => pstep_ident_push acc v (idVal_of_spells h)⟩
  | number v =>
    exact ⟨tok_of_spells h rfl, plain_number h, fun acc _ => pstep_plain acc _ (plain_number h) nofun nofun⟩
  | dimension v => exact ⟨tok_of_spells h rfl, plain_dim h, fun acc _ => pstep_plain acc _ (plain_dim h) nofun nofun⟩
  | string v =>
    exact ⟨tok_of_spells h rfl, plain_string h, fun acc _ => pstep_plain acc _ (plain_string h) nofun nofun⟩
  | plus =>
    rw [ArgTok.tok, s_plus]
    exact ⟨tok_cdelim 43, plain_single 43 (by decide), fun acc _ => pstep_char_push acc 43 (by decide)⟩
  | minus =>
    rw [ArgTok.tok, s_minus]
    exact ⟨tok_cdelim 45, plain_single 45 (by decide), fun acc _ => pstep_char_push acc 45 (by decide)⟩
  | ws =>
    rw [ArgTok.tok, s_sp]
    exact ⟨tok_blank, plain_single 32 (by decide), fun acc _ => pstep_blank acc⟩

theorem pp_args : ∀ (args : List ArgTok) (acc : List T2), (∀ a ∈ args, a.ok = true) → IdentReady acc →
    pp acc ((args.map ArgTok.lex).map tokOf) = (args.map ArgTok.tok).reverse ++ acc := by
  intro args
  induction args with
  | nil => intro acc _ _; rfl
  | cons a as ih =>
    intro acc hok hr
    obtain ⟨h1, h2, h3⟩ := arg_tok a (hok a List.mem_cons_self)
    simp only [List.map_cons, pp_cons, h1, h3 acc hr]
    rw [ih (a.tok :: acc) (fun b hb => hok b (List.mem_cons_of_mem _ hb)) (identReady_plain a.tok acc h2)]
    simp

theorem op_tok (op : AttrOp) :
    tokOf op.lex = op.tok ∧ ∀ acc, pstep acc op.tok = op.tok :: acc ∧ IdentReady (op.tok :: acc) := by
  have h : op.tok = (lexType op.lex, op.lex.render) := by cases op <;> decide +kernel
  rw [h, tokOf_eq]
  cases op <;> exact ⟨rfl, fun acc => ⟨pstep_push acc _ (by decide) (by decide) (by decide) (by decide) (by decide),
    identReady_cons _ _ (by decide) (by decide)⟩⟩

theorem val_tok (v : AttrVal) (h : v.ok = true) (acc : List T2) (hr : IdentReady acc) :
    tokOf v.lex = v.tok ∧ pstep acc v.tok = v.tok :: acc := by
  cases v with
  | ident x => exact ⟨tok_ident h, pstep_ident_push acc x (idVal_of_spells h) hr⟩
  | string x => exact ⟨tok_of_spells h rfl, pstep_plain acc _ (plain_string h) nofun nofun⟩

def attrPfxToks : Option Text → List T2
  | some p => [(.nsprefix, p ++ str "|")]
  | none => []

theorem attrPfx_eq (p : Option Text) :
    attrPfxLex p = (pfxOf p).lex ∧ attrPfxOk p = (pfxOf p).ok ∧ attrPfxToks p = (pfxOf p).toks := by
  cases p with
  | none => exact ⟨rfl, rfl, rfl⟩
  | some q =>
    by_cases h0 : q = []
    · subst h0; exact ⟨rfl, rfl, rfl⟩
    · by_cases h1 : q = [42]
      · subst h1; simp [attrPfxLex, attrPfxOk, attrPfxToks, pfxOf, s_star, Pfx.lex, Pfx.ok, Pfx.toks, s_anybar, s_bar]
      · simp [attrPfxLex, attrPfxOk, attrPfxToks, pfxOf, s_star, h0, h1, Pfx.lex, Pfx.ok, Pfx.toks]

theorem pp_attrib (acc : List T2) (p : Option Text) (name : Text) (rhs : Option (AttrOp × AttrVal))
    (h : (Simple.attrib p name rhs).ok = true) :
    pp acc ((Simple.attrib p name rhs).lex.map tokOf) = (Simple.attrib p name rhs).toks.reverse ++ acc := by
  obtain ⟨e1, e2, e3⟩ := attrPfx_eq p
  simp only [Simple.ok, Bool.and_eq_true, e2] at h
  obtain ⟨⟨hp, hn⟩, hrhs⟩ := h
  have hbr : HeadReady ((.char, [91]) :: acc) := headReady_plain _ acc (plain_single 91 (by decide)) rfl
  have htoks : (Simple.attrib p name rhs).toks = [(.char, [91])] ++ (pfxOf p).toks ++ [(.ident, name)] ++
      (match rhs with | some (op, v) => [op.tok, v.tok] | none => []) ++ [(.char, [93])] := by
    rw [← e3, ← s_lbr, ← s_rbr]; cases p <;> rfl
  rw [htoks]
  simp only [Simple.lex, e1, List.map_append, pp_append, List.map_cons, List.map_nil,
    tok_fast, tok_ident hn, pp_cons, pp_nil, pstep_char_push acc 91 (by decide), (pp_pfx _ _ hbr hp).1,
    pstep_ident_push _ name (idVal_of_spells hn) (pp_pfx _ _ hbr hp).2]
  cases rhs with
  | none => simp [pstep_char_push _ 93 (by decide)]
  | some ov =>
    obtain ⟨op, v⟩ := ov
    obtain ⟨o1, o2⟩ := op_tok op
    obtain ⟨v1, v2⟩ := val_tok v hrhs _ (o2 ((.ident, name) :: ((pfxOf p).toks.reverse ++ (.char, [91]) :: acc))).2
    simp [o1, v1, (o2 _).1, v2, pstep_char_push _ 93 (by decide)]

theorem head_drop {v : Text} {c : Nat} (h : v.head? = some c) : c :: v.drop 1 = v := by
  cases v with
  | nil => cases h
  | cons x r => simp at h; subst h; rfl

theorem pp_simple (acc : List T2) (s : Simple) (h : PartReady acc) (hs : s.ok = true) :
    pp acc (s.lex.map tokOf) = s.toks.reverse ++ acc := by
  cases s with
  | id v =>
    have h1 : tokOf (lexHash v) = (.hash, v) := tok_of_spells hs rfl
    simp only [Simple.lex, List.map_cons, List.map_nil, h1, pp_cons, pp_nil]
    exact pstep_plain acc _ (plain_hash hs) nofun nofun
  | cls v =>
    simp only [Simple.ok, Bool.and_eq_true, beq_iff_eq] at hs
    simp only [Simple.lex, List.map_cons, List.map_nil, tok_cdelim, tok_ident hs.2]
    exact (pp_cls acc (v.drop 1) (idVal_of_spells hs.2)).trans (by rw [head_drop hs.1]; rfl)
  | attrib p name rhs => exact pp_attrib acc p name rhs hs
  | pclass v =>
    simp only [Simple.ok, Bool.and_eq_true, beq_iff_eq] at hs
    simp only [Simple.lex, List.map_cons, List.map_nil, tok_fast, tok_ident hs.2, pp_cons, pp_nil, pstep_colon acc h]
    exact (pstep_pseudo false acc _ (idVal_of_spells hs.2)).trans
      (congrArg (fun w => (TT.pclass, w) :: acc) (head_drop hs.1))
  | pfunc v a args =>
    simp only [Simple.ok, Bool.and_eq_true, beq_iff_eq, bne_iff_ne, ne_eq, List.all_eq_true] at hs
    obtain ⟨⟨⟨⟨hh, hf⟩, hn⟩, hargs⟩, -⟩ := hs
    have h1 : tokOf (lexFunc (v.drop 1)) = (.func, v.drop 1) := tok_of_spells hf rfl
    have h2 := funcVal_of_spells hf
    have hpf := pp_func acc (v.drop 1) h2 hn h
    rw [head_drop hh] at hpf
    have hr : IdentReady ((.pclass, v) :: acc) := by
      obtain ⟨name, -, hname⟩ := h2
      have hv : v = (58 :: name) ++ [40] := by rw [← head_drop hh, hname]; rfl
      exact identReady_cons _ _ (by rw [hv]; simp) (by rw [hv]; simp [endsWith])
    have e : pp acc ([Lexeme.fast 58, lexFunc (v.drop 1)].map tokOf) = (.pclass, v) :: acc := by
      simp only [List.map_cons, List.map_nil, tok_fast, h1]; exact hpf
    simp only [Simple.lex, List.map_append, pp_append]
    rw [e, pp_args (a :: args) _ hargs hr]
    simp [Simple.toks, tok_delim, s_rpar, pstep_char_push _ 41 (by decide)]

theorem simple_ready (acc : List T2) (s : Simple) (hs : s.ok = true) : PartReady (s.toks.reverse ++ acc) := by
  cases s with
  | id v => exact partReady_plain _ _ (plain_hash hs)
  | cls v =>
    simp only [Simple.ok, Bool.and_eq_true, beq_iff_eq] at hs
    refine partReady_cons _ _ (fun hv : v = [58] => ?_)
    rw [hv] at hs; exact absurd hs.1 (by decide)
  | attrib p name rhs => simp [Simple.toks, PartReady, s_rbr]
  | pclass v =>
    simp only [Simple.ok, Bool.and_eq_true, beq_iff_eq] at hs
    refine partReady_cons _ _ (fun hv : v = [58] => ?_)
    rw [hv] at hs; exact (idVal_of_spells hs.2).1 rfl
  | pfunc v a args => simp [Simple.toks, PartReady, s_rpar]

theorem pp_head (acc : List T2) (hd : Head) (h : HeadReady acc) (hh : hd.ok = true) :
    pp acc (hd.lex.map tokOf) = hd.toks.reverse ++ acc ∧ PartReady (hd.toks.reverse ++ acc) := by
  cases hd with
  | type p name =>
    simp only [Head.ok, Bool.and_eq_true] at hh
    obtain ⟨h1, h2⟩ := pp_pfx acc p h hh.1
    simp only [Head.lex, Head.toks, List.map_append, pp_append, h1, List.map_cons, List.map_nil, tok_ident hh.2,
      pp_cons, pp_nil, pstep_ident_push _ name (idVal_of_spells hh.2) h2, List.reverse_append, List.reverse_cons,
      List.reverse_nil, List.nil_append, List.cons_append]
    exact ⟨trivial, partReady_plain _ _ (idVal_plain (idVal_of_spells hh.2))⟩
  | universal p =>
    simp only [Head.lex, Head.toks, List.map_append, pp_append, (pp_pfx acc p h hh).1, List.map_cons, List.map_nil,
      tok_cdelim, pp_cons, pp_nil, s_star, List.reverse_cons, List.reverse_nil, List.nil_append, List.cons_append]
    cases p with
    | none => exact ⟨pstep_star_head acc h, partReady_cons _ _ (by decide)⟩
    | any =>
      simp only [Pfx.toks, Pfx.text, s_anybar]
      exact ⟨pstep_star_merge [42] acc, partReady_cons _ _ (by decide)⟩
    | empty =>
      simp only [Pfx.toks, Pfx.text, s_bar]
      exact ⟨pstep_star_merge [] acc, partReady_cons _ _ (by decide)⟩
    | named q =>
      simp only [Pfx.toks, Pfx.text, s_bar]
      exact ⟨pstep_star_merge q acc, partReady_cons _ _ (fun he => by simpa using congrArg List.length he)⟩

theorem pp_part (acc : List T2) (p : Part) (h : PartReady acc) (hp : p.ok = true) :
    pp acc (p.lex.map tokOf) = p.toks.reverse ++ acc ∧ PartReady (p.toks.reverse ++ acc) := by
  cases p with
  | simple s => exact ⟨pp_simple acc s h hp, simple_ready acc s hp⟩
  | neg a =>
    have hnot : tokOf notLex = (.func, [110, 111, 116, 40]) := tokOf_eq _
    have hr : HeadReady ((.negation, [58, 110, 111, 116, 40]) :: acc) :=
      ⟨fun _ h => (by cases h; decide), identReady_cons _ _ (by decide) (by decide), partReady_cons _ _ (by decide)⟩
    have ha : pp ((.negation, [58, 110, 111, 116, 40]) :: acc) (a.lex.map tokOf) =
        a.toks.reverse ++ (.negation, [58, 110, 111, 116, 40]) :: acc := by
      cases a with
      | type p name => exact (pp_head _ (.type p name) hr hp).1
      | universal p => exact (pp_head _ (.universal p) hr hp).1
      | simple s => exact pp_simple _ s hr.part hp
    constructor
    · simp only [Part.lex, Part.toks, s_rpar, s_cnot, List.map_append, pp_append, List.map_cons, List.map_nil,
        tok_fast, tok_delim, hnot, pp_not acc h, ha, pp_cons, pp_nil, pstep_char_push _ 41 (by decide)]
      simp
    · simp [Part.toks, PartReady, s_rpar]

theorem pp_parts : ∀ (ps : List Part) (acc : List T2), PartReady acc → (∀ p ∈ ps, p.ok = true) →
    pp acc ((ps.flatMap Part.lex).map tokOf) = (ps.flatMap Part.toks).reverse ++ acc ∧
      PartReady ((ps.flatMap Part.toks).reverse ++ acc) := by
  intro ps
  induction ps with
  | nil => intro acc h _; exact ⟨rfl, h⟩
  | cons p ps ih =>
    intro acc h hok
    obtain ⟨h1, h2⟩ := pp_part acc p h (hok p List.mem_cons_self)
    obtain ⟨h3, h4⟩ := ih _ h2 (fun q hq => hok q (List.mem_cons_of_mem _ hq))
    simp only [List.flatMap_cons, List.map_append, pp_append, h1, h3, List.reverse_append, List.append_assoc]
    exact ⟨trivial, by simpa [List.append_assoc] using h4⟩

theorem pp_pelem (acc : List T2) (e : PElem) (h : PartReady acc) (he : e.ok = true) :
    pp acc (e.lex.map tokOf) = e.toks.reverse ++ acc := by
  cases e with
  | dbl v =>
    simp only [PElem.ok, Bool.and_eq_true, beq_iff_eq] at he
    simp only [PElem.lex, List.map_cons, List.map_nil, tok_fast, tok_ident he.2]
    have hcc : pstep ((.char, [58]) :: acc) (.char, [58]) = (.char, [58, 58]) :: acc := by simp [pstep_char]
    have hv : 58 :: 58 :: v.drop 2 = v := by have := List.take_append_drop 2 v; rwa [he.1] at this
    simp only [pp_cons, pp_nil, pstep_colon acc h, hcc]
    exact (pstep_pseudo true acc _ (idVal_of_spells he.2)).trans (congrArg (fun w => (TT.pelem, w) :: acc) hv)
  | legacy v => exact pp_simple acc (.pclass v) h he

theorem pp_compound (acc : List T2) (c : Compound) (h : HeadReady acc) (hc : c.ok = true) :
    pp acc (c.lex.map tokOf) = c.toks.reverse ++ acc := by
  obtain ⟨hd, ps, pe⟩ := c
  simp only [Compound.ok, Bool.and_eq_true, List.all_eq_true] at hc
  obtain ⟨⟨⟨hh, hps⟩, hpe⟩, -⟩ := hc
  have h1 : pp acc (((hd.map Head.lex).getD []).map tokOf) = ((hd.map Head.toks).getD []).reverse ++ acc ∧
      PartReady (((hd.map Head.toks).getD []).reverse ++ acc) := by
    cases hd with
    | none => exact ⟨rfl, h.part⟩
    | some x => exact pp_head acc x h hh
  obtain ⟨h2, h3⟩ := pp_parts ps _ h1.2 hps
  have h4 : pp ((ps.flatMap Part.toks).reverse ++ (((hd.map Head.toks).getD []).reverse ++ acc))
      (((pe.map PElem.lex).getD []).map tokOf) =
      ((pe.map PElem.toks).getD []).reverse ++ ((ps.flatMap Part.toks).reverse ++ (((hd.map Head.toks).getD []).reverse ++ acc)) := by
    cases pe with
    | none => rfl
    | some e => exact pp_pelem _ e h3 hpe
  simp only [Compound.lex, Compound.toks, List.map_append, pp_append, h1.1, h2, h4, List.reverse_append,
    List.append_assoc]

/-- an explicit combinator `c` (`>` `+` `~`, written by the lexeme `x`) with its optional blanks: every token
is pushed, and a compound may follow -/
theorem pp_explicit (acc : List T2) (x : Lexeme) (c : Nat) (hx : tokOf x = (.char, [c]))
    (hc : c = 62 ∨ c = 43 ∨ c = 126) (b a : Bool) :
    pp acc (((if b then [blank] else []) ++ [x] ++ (if a then [blank] else [])).map tokOf) =
      ((if b then [(TT.s, [32])] else []) ++ [(TT.char, [c])] ++ (if a then [(TT.s, [32])] else [])).reverse ++ acc ∧
    HeadReady
      (((if b then [(TT.s, [32])] else []) ++ [(TT.char, [c])] ++ (if a then [(TT.s, [32])] else [])).reverse ++
        acc) := by
  have hp : c ≠ 58 ∧ c ≠ 42 ∧ c ≠ 124 ∧ c ≠ 46 := by omega
  have hpush := fun acc => pstep_char_push acc c ⟨hp.1, hp.2.1, hp.2.2.1⟩
  have hrc := fun acc => headReady_plain (.char, [c]) acc (plain_single c hp) rfl
  have hrb := fun acc => headReady_plain (.s, [32]) acc (plain_single 32 (by decide)) rfl
  cases b <;> cases a <;> simp [tok_blank, hx, pstep_blank, hpush, hrc, hrb]

theorem pp_comb (acc : List T2) (cb : Comb) (l : Layout) :
    pp acc ((cb.lex l).map tokOf) = (cb.toks l).reverse ++ acc ∧ HeadReady ((cb.toks l).reverse ++ acc) := by
  cases cb with
  | descendant =>
    simp only [Comb.lex, Comb.toks, s_sp, List.map_cons, List.map_nil, tok_blank, pp_cons, pp_nil, pstep_blank]
    exact ⟨rfl, headReady_plain (.s, [32]) acc (plain_single 32 (by decide)) rfl⟩
  | child => simp only [Comb.lex, Comb.toks, s_sp, s_gt]; exact pp_explicit acc _ 62 (tok_fast 62) (by decide) _ _
  | adjacent => simp only [Comb.lex, Comb.toks, s_sp, s_plus]; exact pp_explicit acc _ 43 (tok_cdelim 43) (by decide) _ _
  | following =>
    simp only [Comb.lex, Comb.toks, s_sp, s_tilde]; exact pp_explicit acc _ 126 (tok_cdelim 126) (by decide) _ _

theorem restOk_cons {c0 : Compound} {cb : Comb} {l : Layout} {c : Compound} {r : List (Comb × Layout × Compound)}
    (h : restOk c0 ((cb, l, c) :: r) = true) : c.ok = true ∧ restOk c r = true := by
  simp only [restOk, Bool.and_eq_true] at h
  exact ⟨h.1.1.1, h.2⟩

theorem pp_rest : ∀ (rest : List (Comb × Layout × Compound)) (c0 : Compound) (acc : List T2),
    restOk c0 rest = true →
    pp acc ((rest.flatMap (fun x => x.1.lex x.2.1 ++ x.2.2.lex)).map tokOf) =
      (rest.flatMap (fun x => x.1.toks x.2.1 ++ x.2.2.toks)).reverse ++ acc := by
  intro rest
  induction rest with
  | nil => intro _ acc _; rfl
  | cons x r ih =>
    intro c0 acc hok
    obtain ⟨cb, l, c⟩ := x
    obtain ⟨hc, hr⟩ := restOk_cons hok
    obtain ⟨h1, h2⟩ := pp_comb acc cb l
    simp only [List.flatMap_cons, List.map_append, pp_append, h1, pp_compound _ c h2 hc, ih c _ hr,
      List.reverse_append, List.append_assoc]

/-- **the pre-pass on the expected tokens of the lexemes is the token rendering of the grammar** -/
theorem prepass_lex (σ : Sel) (h : σ.NamesOK = true) : prepass Gen.tables (σ.lex.map tokOf) = σ.toks := by
  simp only [Sel.NamesOK, Bool.and_eq_true] at h
  obtain ⟨⟨h1, h2⟩, -⟩ := h
  show (pp [] (σ.lex.map tokOf)).reverse = σ.toks
  have h0 : HeadReady [] := ⟨fun _ h => (nomatch h), fun _ h => (nomatch h), fun _ h => (nomatch h)⟩
  simp only [Sel.lex, Sel.toks, List.map_append, pp_append, pp_compound [] σ.first h0 h1,
    pp_rest σ.rest σ.first _ h2]
  simp

/-! ## part 2: the lexemes meet the hypotheses of `C09.classify_sequence` -/

/-! ### RATIO: no lexeme of a selector starts with `/` -/

/-- white space, or starts with a character that is neither white space nor `/` -/
def sf (l : Lexeme) : Bool :=
  l.render.all C09.isWs || (match l.render with | d :: _ => d != 47 && !C09.isWs d | [] => false)

theorem noSlash_flat : ∀ (ls : List Lexeme), (∀ l ∈ ls, sf l = true) →
    C09.noSlash (ls.flatMap Lexeme.render) = true := by
  intro ls
  induction ls with
  | nil => intro _; rfl
  | cons l ls ih =>
    intro h
    have hl := h l List.mem_cons_self
    have ih' := ih (fun x hx => h x (List.mem_cons_of_mem _ hx))
    rw [List.flatMap_cons]
    simp only [sf, Bool.or_eq_true, List.all_eq_true] at hl
    rcases hl with hl | hl
    · unfold C09.noSlash
      rw [List.dropWhile_append_of_pos hl]
      exact ih'
    · cases hr : l.render with
      | nil => rw [hr] at hl; cases hl
      | cons d r =>
        rw [hr] at hl
        simp only [Bool.and_eq_true, bne_iff_ne, ne_eq, Bool.not_eq_true'] at hl
        unfold C09.noSlash
        rw [List.cons_append, List.dropWhile_cons_of_neg (by simp [hl.2])]
        simpa using hl.1

theorem ratioFree_sf : ∀ (ls : List Lexeme) (prev : Option Nat), (∀ l ∈ ls, sf l = true) →
    ratioFree prev ls = true := by
  intro ls
  induction ls with
  | nil => intro _ _; rfl
  | cons a ls ih =>
    intro prev h
    have hns := noSlash_flat ls (fun x hx => h x (List.mem_cons_of_mem _ hx))
    have : C09.Lexeme.ratioOK prev a (ls.flatMap Lexeme.render) = true := by
      cases a with
      | number s num => cases s <;> simp [C09.Lexeme.ratioOK, hns]
      | _ => rfl
    simp only [ratioFree, this, Bool.true_and]
    exact ih _ (fun x hx => h x (List.mem_cons_of_mem _ hx))

/-- the next lexeme (if any) starts with a character satisfying `P` -/
def Nx (k : List Lexeme) (P : Nat → Prop) : Prop := ∀ y ∈ k.head?, ∃ d r, y.render = d :: r ∧ P d

theorem Nx.cons {y : Lexeme} {k : List Lexeme} {P : Nat → Prop} {d : Nat} {r : Text}
    (h : y.render = d :: r) (hp : P d) : Nx (y :: k) P := by
  intro z hz; simp at hz; subst hz; exact ⟨d, r, h, hp⟩

theorem Nx.single {y : Lexeme} {k : List Lexeme} {P : Nat → Prop} (c : Nat) (h : y.render = [c]) (hp : P c) :
    Nx (y :: k) P := Nx.cons h hp

theorem Nx.mono {k : List Lexeme} {P Q : Nat → Prop} (h : Nx k P) (hpq : ∀ d, P d → Q d) : Nx k Q := by
  intro y hy
  obtain ⟨d, r, h1, h2⟩ := h y hy
  exact ⟨d, r, h1, hpq d h2⟩

theorem Nx.and {k : List Lexeme} {P Q : Nat → Prop} (h1 : Nx k P) (h2 : Nx k Q) : Nx k (fun d => P d ∧ Q d) := by
  intro y hy
  obtain ⟨d, r, ha, hb⟩ := h1 y hy
  obtain ⟨d', r', ha', hb'⟩ := h2 y hy
  rw [ha] at ha'
  cases ha'
  exact ⟨d, r, ha, hb, hb'⟩

abbrev K (k : List Lexeme) : Prop := chain canFollow k = true

theorem canFollow_nonnum (x y : Lexeme) (hx : ∀ s n, x ≠ .number s n) :
    canFollow x y = x.stopLocal y.render := by
  cases x with
  | number s n => exact absurd rfl (hx s n)
  | _ => simp [canFollow]

/-- one more lexeme in front: it suffices that its stop condition accepts the next character -/
theorem link (x : Lexeme) (k : List Lexeme) (hx : ∀ s n, x ≠ .number s n) (hk : K k)
    (hn : Nx k (fun d => x.stopLocal [d] = true)) : K (x :: k) := by
  cases k with
  | nil => rfl
  | cons y k' =>
    obtain ⟨d, r, h1, h2⟩ := hn y (by simp)
    show (canFollow x y && chain canFollow (y :: k')) = true
    rw [canFollow_nonnum x y hx, h1, hk, Bool.and_true]
    have := C09.stopLocal_head x hx d [] r
    simpa using this.trans h2

/-- the lexeme classes whose stop condition accepts any text: nothing after them can merge with them -/
def stopsAnywhere : Lexeme → Bool
  | .fast _ | .delim _ | .includes | .dashmatch | .prefixmatch | .suffixmatch | .substringmatch | .string _ _
  | .function _ _ _ => true
  | _ => false

theorem link_closer (x : Lexeme) (k : List Lexeme) (hx : stopsAnywhere x = true) (hk : K k) : K (x :: k) := by
  cases k with
  | nil => rfl
  | cons y k' =>
    show (canFollow x y && chain canFollow (y :: k')) = true
    rw [hk, Bool.and_true]
    cases x <;> first | rfl | cases hx

theorem link_fast (c : Nat) (k : List Lexeme) (hk : K k) : K (.fast c :: k) := link_closer _ k rfl hk
theorem link_delim (c : Nat) (k : List Lexeme) (hk : K k) : K (.delim c :: k) := link_closer _ k rfl hk

/-- what may follow an identifier: not a name character, a backslash or `(` -/
def IdStop (d : Nat) : Prop := isNmChar d = false ∧ d ≠ 92 ∧ d ≠ 40

theorem link_ident (v : Text) (k : List Lexeme) (hs : spells (lexIdent v) v = true) (hk : K k)
    (hn : Nx k IdStop) (hu : isUText v = true → Nx k (fun d => d ≠ 43)) : K (lexIdent v :: k) := by
  have hr := (spells_iff.mp hs).2
  have hst : ∀ d, (lexIdent v).stopLocal [d] = (C09.identStop [d] && !(isUText v && d == 43)) := by
    intro d
    have : (lexIdent v).stopLocal [d] =
        (C09.identStop [d] && !(lowerT (lexIdent v).render == [117] && [d].head? == some 43)) := rfl
    rw [this, hr]
    simp [isUText]
  apply link _ k (by intro s n h; cases h) hk
  cases hU : isUText v with
  | false =>
    refine hn.mono ?_
    intro d ⟨h1, h2, h3⟩
    simp [hst, hU, C09.identStop, h1, h2, h3]
  | true =>
    refine (hn.and (hu hU)).mono ?_
    intro d ⟨⟨h1, h2, h3⟩, h4⟩
    simp [hst, C09.identStop, h1, h2, h3, h4]

theorem link_hash (v : Text) (k : List Lexeme) (hk : K k) (hn : Nx k IdStop) : K (lexHash v :: k) := by
  apply link _ k (by intro s n h; cases h) hk
  refine hn.mono ?_
  intro d ⟨h1, h2, _⟩
  simp [lexHash, Lexeme.stopLocal, C09.nameStop, h1, h2]

theorem link_cdelim (c : Nat) (k : List Lexeme) (hk : K k) (hn : Nx k (fun d => C09.ctxStop c [d] = true)) :
    K (.cdelim c :: k) :=
  link _ k (by intro s n h; cases h) hk hn

theorem link_blank (k : List Lexeme) (hk : K k) (hn : Nx k (fun d => C09.isWs d = false)) : K (blank :: k) := by
  apply link _ k (by intro s n h; cases h) hk
  refine hn.mono ?_
  intro d h
  simp [blank, Lexeme.stopLocal, h]

/-- the characters that may follow a complete simple selector: `# . [ : ␠ > + ~ )` -/
def sepC (d : Nat) : Bool := [35, 46, 91, 58, 32, 62, 43, 126, 41].contains d
/-- the characters a simple selector other than type / universal starts with: `# . [ :` -/
def partC (d : Nat) : Bool := [35, 46, 91, 58].contains d
/-- the characters a compound may start with -/
def startC (d : Nat) : Bool := isNmStart d || [45, 42, 124, 35, 46, 91, 58].contains d

theorem partC_sep {d : Nat} (h : partC d = true) : sepC d = true ∧ d ≠ 43 ∧ startC d = true := by
  have all : ∀ d ∈ [35, 46, 91, 58], sepC d = true ∧ d ≠ 43 ∧ startC d = true := by decide +kernel
  exact all d (by simpa [partC] using h)

theorem sepC_facts {d : Nat} (h : sepC d = true) : IdStop d ∧ d ≠ 61 := by
  have all : ∀ d ∈ [35, 46, 91, 58, 32, 62, 43, 126, 41], (isNmChar d = false ∧ d ≠ 92 ∧ d ≠ 40) ∧ d ≠ 61 := by
    decide +kernel
  exact all d (by simpa [sepC] using h)

theorem startC_facts {d : Nat} (h : startC d = true) :
    C09.isWs d = false ∧ isDigit d = false ∧ d ≠ 61 ∧ d ≠ 47 := by
  simp only [startC, Bool.or_eq_true] at h
  rcases h with h | h
  · obtain ⟨-, -, -, -, -, h47, hdigit, hws⟩ := nmstart_facts h
    refine ⟨hws, hdigit, ?_, h47⟩
    intro h'; subst h'; revert h; decide
  · have all : ∀ d ∈ [45, 42, 124, 35, 46, 91, 58],
        C09.isWs d = false ∧ isDigit d = false ∧ d ≠ 61 ∧ d ≠ 47 := by decide +kernel
    exact all d (by simpa using h)

def Start1 (d : Nat) : Prop := startC d = true ∧ d ≠ 46 ∧ d ≠ 43

def StartOf (dot : Bool) (d : Nat) : Prop := startC d = true ∧ (d = 46 → dot = true) ∧ d ≠ 43

theorem Start1.startOf {d : Nat} (h : Start1 d) (dot : Bool) : StartOf dot d :=
  ⟨h.1, fun h46 => absurd h46 h.2.1, h.2.2⟩

theorem nx_ident {v : Text} (hs : spells (lexIdent v) v = true) (k : List Lexeme) :
    Nx (lexIdent v :: k) Start1 := by
  obtain ⟨m, u, us, h1, hu, -, -⟩ := spells_ident hs
  rw [h1]
  cases m with
  | true => exact Nx.cons (d := 45) rfl ⟨by decide, by decide, by decide⟩
  | false =>
    obtain ⟨-, -, h46, -, h43, -, -, -⟩ := nmstart_facts hu
    exact Nx.cons (d := u) rfl ⟨by simp [startC, hu], h46, h43⟩

/-! ### adjacency: the grammar, unit by unit (each with the lexemes `k` that follow) -/

/-- what follows a complete simple selector whose text ends with `u`/`U` iff `u = true` -/
structure Fol (k : List Lexeme) (u : Bool) : Prop where
  chain : K k
  sep : Nx k (fun d => sepC d = true)
  noplus : u = true → Nx k (fun d => d ≠ 43)

theorem Fol.weaken {k : List Lexeme} {u : Bool} (h : Fol k u) : Fol k false :=
  ⟨h.chain, h.sep, by intro h'; cases h'⟩

theorem Fol.idstop {k : List Lexeme} {u : Bool} (h : Fol k u) : Nx k IdStop :=
  h.sep.mono (fun _ hd => (sepC_facts hd).1)

theorem chain_pfx (p : Pfx) (hp : p.ok = true) (k : List Lexeme) (hk : K k) (hn : Nx k Start1) :
    K (p.lex ++ k) ∧ Nx (p.lex ++ k) Start1 := by
  have hb : K (.cdelim 124 :: k) :=
    link_cdelim 124 k hk (hn.mono (fun _ hd => by simp [C09.ctxStop, (startC_facts hd.1).2.2.1]))
  cases p with
  | none => exact ⟨hk, hn⟩
  | any =>
    exact ⟨link_cdelim 42 _ hb (Nx.single 124 rfl (by decide)), Nx.single 42 rfl ⟨by decide, by decide, by decide⟩⟩
  | empty => exact ⟨hb, Nx.single 124 rfl ⟨by decide, by decide, by decide⟩⟩
  | named q =>
    exact ⟨link_ident q _ hp hb (Nx.single 124 rfl ⟨by decide, by decide, by decide⟩)
        (fun _ => Nx.single 124 rfl (by decide)),
      nx_ident hp _⟩

theorem chain_head (hd : Head) (hh : hd.ok = true) (k : List Lexeme) (h : Fol k hd.endsU) :
    K (hd.lex ++ k) ∧ Nx (hd.lex ++ k) Start1 := by
  cases hd with
  | type p name =>
    simp only [Head.ok, Bool.and_eq_true] at hh
    rw [Head.lex, List.append_assoc]
    exact chain_pfx p hh.1 _ (link_ident name k hh.2 h.chain h.idstop h.noplus) (nx_ident hh.2 k)
  | universal p =>
    rw [Head.lex, List.append_assoc]
    exact chain_pfx p hh _ (link_cdelim 42 k h.chain (h.sep.mono (fun _ hd => by simp [C09.ctxStop, (sepC_facts hd).2])))
      (Nx.single 42 rfl ⟨by decide, by decide, by decide⟩)

theorem chain_append_cons : ∀ (a : List Lexeme) (y : Lexeme) (b : List Lexeme), K a → K (y :: b) →
    (∀ x ∈ a, canFollow x y = true) → K (a ++ y :: b)
  | [], _, _, _, hb, _ => hb
  | [x], y, b, _, hb, hl => by
    show (canFollow x y && chain canFollow (y :: b)) = true
    rw [hl x List.mem_cons_self, hb]; rfl
  | x :: x' :: a', y, b, ha, hb, hl => by
    have ha' : canFollow x x' = true ∧ K (x' :: a') := by
      have : (canFollow x x' && chain canFollow (x' :: a')) = true := ha
      simpa using this
    show (canFollow x x' && chain canFollow ((x' :: a') ++ y :: b)) = true
    rw [ha'.1, chain_append_cons (x' :: a') y b ha'.2 hb (fun z hz => hl z (List.mem_cons_of_mem _ hz))]; rfl

theorem arg_close (a : ArgTok) : canFollow a.lex (.delim 41) = true := by
  cases a <;> simp [ArgTok.lex, lexIdent, lexNumber, lexDim, lexString, canFollow, Lexeme.stopLocal, Lexeme.render,
    C09.identStop, C09.numStop, C09.nameStop, C09.ctxStop, identStart, nameStart, dotDigit, isNmChar, isNmStart,
    isDigit, C09.isWs]

theorem chain_attr_tail (rhs : Option (AttrOp × AttrVal)) (k : List Lexeme) (hk : K k) :
    (match rhs with | some (_, v) => v.ok | none => true) = true →
    K ((match rhs with | some (op, v) => [op.lex, v.lex] | none => []) ++ .fast 93 :: k) ∧
    Nx ((match rhs with | some (op, v) => [op.lex, v.lex] | none => []) ++ .fast 93 :: k)
      (fun d => IdStop d ∧ d ≠ 43) := by
  intro hr
  have h93 := link_fast 93 k hk
  cases rhs with
  | none => exact ⟨h93, Nx.single 93 rfl ⟨⟨by decide, by decide, by decide⟩, by decide⟩⟩
  | some ov =>
    obtain ⟨op, v⟩ := ov
    have hv : K (v.lex :: .fast 93 :: k) := by
      cases v with
      | ident x =>
        exact link_ident x _ hr h93 (Nx.single 93 rfl (⟨by decide, by decide, by decide⟩))
          (fun _ => Nx.single 93 rfl (by decide))
      | string x => exact link_closer _ _ rfl h93
    cases op <;> exact ⟨link_closer _ _ rfl hv, Nx.cons rfl ⟨⟨by decide, by decide, by decide⟩, by decide⟩⟩

theorem chain_simple (s : Simple) (hs : s.ok = true) (k : List Lexeme) (h : Fol k (Part.simple s).endsU) :
    K (s.lex ++ k) ∧ Nx (s.lex ++ k) (fun d => partC d = true ∧ (d = 46 → ∃ v, s = .cls v)) := by
  cases s with
  | id v =>
    exact ⟨link_hash v k h.chain h.idstop, Nx.cons (d := 35) rfl ⟨by decide, by intro h; cases h⟩⟩
  | cls v =>
    simp only [Simple.ok, Bool.and_eq_true, beq_iff_eq] at hs
    have h1 := link_ident (v.drop 1) k hs.2 h.chain h.idstop h.noplus
    refine ⟨link_cdelim 46 _ h1 ((nx_ident hs.2 k).mono ?_), Nx.single 46 rfl ⟨by decide, fun _ => ⟨v, rfl⟩⟩⟩
    intro d hd
    simp [C09.ctxStop, (startC_facts hd.1).2.1]
  | attrib p name rhs =>
    obtain ⟨elex, eok, -⟩ := attrPfx_eq p
    simp only [Simple.ok, Bool.and_eq_true, eok] at hs
    obtain ⟨⟨hp, hn⟩, hrhs⟩ := hs
    obtain ⟨h1, h2⟩ := chain_attr_tail rhs k h.chain hrhs
    have h3 := link_ident name _ hn h1 (h2.mono (fun _ hd => hd.1)) (fun _ => h2.mono (fun _ hd => hd.2))
    have h4 := (chain_pfx (pfxOf p) hp _ h3 (nx_ident hn _)).1
    refine ⟨?_, Nx.single 91 rfl ⟨by decide, by intro h; cases h⟩⟩
    have := link_fast 91 _ h4
    cases rhs with
    | none => simpa [Simple.lex, elex, List.append_assoc] using this
    | some ov => obtain ⟨op, v⟩ := ov; simpa [Simple.lex, elex, List.append_assoc] using this
  | pclass v =>
    simp only [Simple.ok, Bool.and_eq_true, beq_iff_eq] at hs
    exact ⟨link_fast 58 _ (link_ident (v.drop 1) k hs.2 h.chain h.idstop h.noplus),
      Nx.single 58 rfl ⟨by decide, by intro h; cases h⟩⟩
  | pfunc v a args =>
    simp only [Simple.ok, Bool.and_eq_true] at hs
    obtain ⟨-, hch⟩ := hs
    have h1 : K ((a :: args).map ArgTok.lex ++ .delim 41 :: k) := by
      refine chain_append_cons _ _ _ hch (link_delim 41 k h.chain) (fun x hx => ?_)
      obtain ⟨b, -, rfl⟩ := List.mem_map.mp hx
      exact arg_close b
    refine ⟨?_, Nx.single 58 rfl ⟨by decide, by intro h; cases h⟩⟩
    have := link_fast 58 _ (link_closer (lexFunc (v.drop 1)) _ rfl h1)
    simpa [Simple.lex, List.append_assoc] using this

theorem chain_part (p : Part) (hp : p.ok = true) (k : List Lexeme) (h : Fol k p.endsU) :
    K (p.lex ++ k) ∧ Nx (p.lex ++ k) (fun d => partC d = true ∧ (d = 46 → ∃ v, p = .simple (.cls v))) := by
  cases p with
  | simple s =>
    obtain ⟨h1, h2⟩ := chain_simple s hp k h
    refine ⟨h1, h2.mono ?_⟩
    intro d ⟨hd1, hd2⟩
    exact ⟨hd1, fun hd => by obtain ⟨v, rfl⟩ := hd2 hd; exact ⟨v, rfl⟩⟩
  | neg a =>
    refine ⟨?_, Nx.single 58 rfl ⟨by decide, by intro h; cases h⟩⟩
    have hf : ∀ u, Fol (.delim 41 :: k) u := fun u =>
      ⟨link_delim 41 k h.chain, Nx.single 41 rfl (by decide), fun _ => Nx.single 41 rfl (by decide)⟩
    have ha : K (a.lex ++ .delim 41 :: k) := by
      cases a with
      | type p name => exact (chain_head (.type p name) hp _ (hf _)).1
      | universal p => exact (chain_head (.universal p) hp _ (hf _)).1
      | simple s => exact (chain_simple s hp _ (hf _)).1
    have := link_fast 58 _ (link_closer notLex _ rfl ha)
    simpa [Part.lex, List.append_assoc] using this

theorem chain_pelem (e : PElem) (he : e.ok = true) (k : List Lexeme) (h : Fol k e.endsU) :
    K (e.lex ++ k) ∧ Nx (e.lex ++ k) (fun d => partC d = true ∧ d ≠ 46) := by
  cases e with
  | dbl v =>
    simp only [PElem.ok, Bool.and_eq_true] at he
    exact ⟨link_fast 58 _ (link_fast 58 _ (link_ident (v.drop 2) k he.2 h.chain h.idstop h.noplus)),
      Nx.single 58 rfl ⟨by decide, by decide⟩⟩
  | legacy v =>
    simp only [PElem.ok, Bool.and_eq_true] at he
    exact ⟨link_fast 58 _ (link_ident (v.drop 1) k he.2 h.chain h.idstop h.noplus),
      Nx.single 58 rfl ⟨by decide, by decide⟩⟩

theorem fol_of_parts {k' : List Lexeme} (hk : K k') (hn : Nx k' (fun d => partC d = true)) (u : Bool) : Fol k' u :=
  ⟨hk, hn.mono (fun _ hd => (partC_sep hd).1), fun _ => hn.mono (fun _ hd => (partC_sep hd).2.1)⟩

theorem chain_parts : ∀ (ps : List Part), (∀ p ∈ ps, p.ok = true) → ∀ (k : List Lexeme), Fol k (lastPartU ps) →
    K (ps.flatMap Part.lex ++ k) ∧
    (ps ≠ [] → Nx (ps.flatMap Part.lex ++ k)
      (fun d => partC d = true ∧ (d = 46 → ∃ v r, ps = .simple (.cls v) :: r))) := by
  intro ps
  induction ps with
  | nil => intro _ k h; exact ⟨h.chain, fun h => absurd rfl h⟩
  | cons p ps ih =>
    intro hok k h
    have hok' : ∀ q ∈ ps, q.ok = true := fun q hq => hok q (List.mem_cons_of_mem _ hq)
    rw [List.flatMap_cons, List.append_assoc]
    have hp : Fol (ps.flatMap Part.lex ++ k) p.endsU := by
      cases ps with
      | nil => simpa [lastPartU] using h
      | cons q r =>
        obtain ⟨h1, h2⟩ := ih hok' k h
        exact fol_of_parts h1 ((h2 (by simp)).mono (fun _ hd => hd.1)) _
    obtain ⟨h3, h4⟩ := chain_part p (hok p List.mem_cons_self) _ hp
    refine ⟨h3, fun _ => h4.mono ?_⟩
    intro d ⟨hd1, hd2⟩
    exact ⟨hd1, fun hd => by obtain ⟨v, rfl⟩ := hd2 hd; exact ⟨v, ps, rfl⟩⟩

theorem chain_compound (c : Compound) (hc : c.ok = true) (k : List Lexeme) (h : Fol k c.endsU) :
    K (c.lex ++ k) ∧ Nx (c.lex ++ k) (StartOf c.startsDot) := by
  obtain ⟨hd, ps, pe⟩ := c
  simp only [Compound.ok, Bool.and_eq_true, List.all_eq_true] at hc
  obtain ⟨⟨⟨hh, hps⟩, hpe⟩, hne⟩ := hc
  simp only [Compound.lex, List.append_assoc]
  -- after the parts: the pseudo-element, or `k`
  have hpe' : Fol (((pe.map PElem.lex).getD []) ++ k) (lastPartU ps) ∧
      (pe.isSome = true → Nx (((pe.map PElem.lex).getD []) ++ k) (fun d => partC d = true ∧ d ≠ 46)) := by
    cases pe with
    | none =>
      refine ⟨⟨h.chain, h.sep, ?_⟩, fun h => by cases h⟩
      intro hu
      apply h.noplus
      cases ps with
      | nil => cases hu
      | cons q r => simpa [Compound.endsU] using hu
    | some e =>
      obtain ⟨he1, he2⟩ := chain_pelem e hpe k (by simpa [Compound.endsU] using h)
      exact ⟨fol_of_parts he1 (he2.mono (fun _ hd => hd.1)) _, fun _ => he2⟩
  obtain ⟨hparts, hfirst⟩ := chain_parts ps hps _ hpe'.1
  -- after the head: the parts, the pseudo-element, or `k`
  have hafter : ∀ u : Bool, (u = true → ps = [] → pe = none → (⟨hd, ps, pe⟩ : Compound).endsU = true) →
      Fol (ps.flatMap Part.lex ++ (((pe.map PElem.lex).getD []) ++ k)) u := by
    intro u hu
    cases ps with
    | cons q r => exact fol_of_parts hparts ((hfirst (by simp)).mono (fun _ hd => hd.1)) _
    | nil =>
      cases pe with
      | some e => exact fol_of_parts hparts ((hpe'.2 rfl).mono (fun _ hd => hd.1)) _
      | none =>
        refine ⟨h.chain, h.sep, fun hu' => ?_⟩
        exact h.noplus (hu hu' rfl rfl)
  cases hd with
  | some x =>
    obtain ⟨hchain, hstart⟩ := chain_head x hh _ (hafter x.endsU (by
      intro hu hps hpe; subst hps; subst hpe; simpa [Compound.endsU] using hu))
    exact ⟨hchain, hstart.mono (fun _ hd => hd.startOf _)⟩
  | none =>
    refine ⟨hparts, ?_⟩
    cases ps with
    | cons q r =>
      refine (hfirst (by simp)).mono ?_
      intro d ⟨hd1, hd2⟩
      refine ⟨(partC_sep hd1).2.2, fun h46 => ?_, (partC_sep hd1).2.1⟩
      obtain ⟨v, r', hv⟩ := hd2 h46
      simp [Compound.startsDot, hv]
    | nil =>
      cases pe with
      | some e =>
        refine (hpe'.2 rfl).mono ?_
        intro d ⟨hd1, hd2⟩
        exact ⟨(partC_sep hd1).2.2, fun h46 => absurd h46 hd2, (partC_sep hd1).2.1⟩
      | none => simp at hne

theorem chain_comb (cb : Comb) (l : Layout) (dot : Bool) (k : List Lexeme) (hk : K k)
    (hn : Nx k (StartOf dot))
    (hdot : (cb == .adjacent && !l.after && dot) = false) :
    K (cb.lex l ++ k) ∧ Nx (cb.lex l ++ k) (fun d => sepC d = true ∧ (d = 43 → cb = .adjacent ∧ l.before = false)) := by
  have hb : K (blank :: k) := link_blank k hk (hn.mono (fun _ hd => (startC_facts hd.1).1))
  have nxb : ∀ (P : Nat → Prop) (X : List Lexeme), P 32 → Nx (blank :: X) P :=
    fun P X h => Nx.single 32 rfl h
  obtain ⟨b, a⟩ := l
  -- what follows the combinator character: a blank, or what `k` starts with
  have after : K ((if a then [blank] else []) ++ k) ∧
      Nx ((if a then [blank] else []) ++ k)
        (fun d => d = 32 ∨ (a = false ∧ startC d = true ∧ (d = 46 → dot = true))) := by
    cases a
    · exact ⟨hk, hn.mono (fun _ hd => Or.inr ⟨rfl, hd.1, hd.2.1⟩)⟩
    · exact ⟨hb, nxb _ _ (Or.inl rfl)⟩
  -- the optional blank before the character `c`, written by the lexeme `x`
  have before : ∀ (x : Lexeme) (c : Nat) (rest : List Lexeme), x.render = [c] → C09.isWs c = false →
      sepC c = true → (c = 43 → cb = .adjacent) → K (x :: rest) →
      K ((if b then [blank] else []) ++ x :: rest) ∧
      Nx ((if b then [blank] else []) ++ x :: rest) (fun d => sepC d = true ∧ (d = 43 → cb = .adjacent ∧ b = false)) := by
    intro x c rest hx hw hs h43 hK
    cases b
    · exact ⟨hK, Nx.cons hx ⟨hs, fun h => ⟨h43 h, rfl⟩⟩⟩
    · exact ⟨link_blank _ hK (Nx.cons hx hw), nxb _ _ ⟨by decide, by intro h; cases h⟩⟩
  cases cb with
  | descendant => exact ⟨hb, nxb _ _ ⟨by decide, by intro h; cases h⟩⟩
  | child =>
    rw [Comb.lex, List.append_assoc, List.append_assoc]
    exact before _ 62 _ rfl (by decide) (by decide) (by intro h; cases h) (link_fast 62 _ after.1)
  | following =>
    rw [Comb.lex, List.append_assoc, List.append_assoc]
    refine before _ 126 _ rfl (by decide) (by decide) (by intro h; cases h)
      (link_cdelim 126 _ after.1 (after.2.mono ?_))
    rintro d (rfl | ⟨-, hd, -⟩)
    · decide
    · simp [C09.ctxStop, (startC_facts hd).2.2.1]
  | adjacent =>
    rw [Comb.lex, List.append_assoc, List.append_assoc]
    refine before _ 43 _ rfl (by decide) (by decide) (fun _ => rfl) (link_cdelim 43 _ after.1 (after.2.mono ?_))
    rintro d (rfl | ⟨ha, hd, h46⟩)
    · decide
    · have : d ≠ 46 := by
        intro h; have := h46 h; subst ha; subst this; simp at hdot
      simp [C09.ctxStop, (startC_facts hd).2.1, this]

theorem chain_rest : ∀ (rest : List (Comb × Layout × Compound)) (c0 : Compound), restOk c0 rest = true →
    Fol (rest.flatMap (fun x => x.1.lex x.2.1 ++ x.2.2.lex)) c0.endsU := by
  intro rest
  induction rest with
  | nil => intro c0 _; exact ⟨rfl, fun _ h => (nomatch h), fun _ _ h => (nomatch h)⟩
  | cons x r ih =>
    intro c0 hok
    obtain ⟨cb, l, c⟩ := x
    simp only [restOk, Bool.and_eq_true, Bool.not_eq_true'] at hok
    obtain ⟨⟨⟨hc, hU⟩, hD⟩, hr⟩ := hok
    obtain ⟨h1, h2⟩ := chain_compound c hc _ (ih c hr)
    obtain ⟨h3, h4⟩ := chain_comb cb l c.startsDot _ h1 h2 hD
    simp only [List.flatMap_cons, List.append_assoc]
    refine ⟨h3, h4.mono (fun _ hd => hd.1), fun hu => h4.mono ?_⟩
    intro d ⟨_, hd⟩ h43
    obtain ⟨rfl, hb⟩ := hd h43
    simp [hb, hu] at hU

theorem chain_sel (σ : Sel) (h : σ.NamesOK = true) : K σ.lex := by
  simp only [Sel.NamesOK, Bool.and_eq_true] at h
  exact (chain_compound σ.first h.1.1 _ (chain_rest σ.rest σ.first h.1.2)).1

def Good (l : Lexeme) : Prop := l.wf = true ∧ sf l = true
def AllGood (ls : List Lexeme) : Prop := ∀ l ∈ ls, Good l

theorem AllGood.append {a b : List Lexeme} (h1 : AllGood a) (h2 : AllGood b) : AllGood (a ++ b) :=
  List.forall_mem_append.mpr ⟨h1, h2⟩

theorem good_of_spells {l : Lexeme} {v : Text} (hs : spells l v = true) (d : Nat) (r : Text)
    (h : l.render = d :: r) (h47 : d ≠ 47) (hw : C09.isWs d = false) : Good l :=
  ⟨(spells_iff.mp hs).1, by simp [sf, h, h47, hw]⟩

theorem good_of_nmchar {l : Lexeme} {v : Text} (hs : spells l v = true) {c : Nat} {r : Text} (hv : v = c :: r)
    (hc : isNmChar c = true) : Good l :=
  have ⟨_, _, _, h47, hws⟩ := nmchar_facts hc
  good_of_spells hs c r ((render_of hs).trans hv) h47 hws

theorem good_numeric (l : Lexeme) (v : Text) (hs : spells l v = true) (s : Option Nat) (num tail : Text)
    (hr : l.render = C09.signText s ++ (num ++ tail)) (hsg : signOK s = true) (hn : isNumLex num = true) : Good l := by
  obtain ⟨d, r, h, hd, -⟩ := numeric_head s num tail hsg hn
  obtain ⟨-, -, -, h47, hws, -⟩ := numeric_head_facts d hd
  exact good_of_spells hs d r (hr.trans h) h47 hws

/-- the lexemes `Sel.lex` writes, each with what `Sel.NamesOK` says about it -/
inductive Written : Lexeme → Prop
  | ident {v : Text} : spells (lexIdent v) v = true → Written (lexIdent v)
  | func {v : Text} : spells (lexFunc v) v = true → Written (lexFunc v)
  | hash {v : Text} : spells (lexHash v) v = true → Written (lexHash v)
  | string {v : Text} : spells (lexString v) v = true → Written (lexString v)
  | number {v : Text} : spells (lexNumber v) v = true → Written (lexNumber v)
  | dim {v : Text} : spells (lexDim v) v = true → Written (lexDim v)
  | fast (c : Nat) : c ∈ [58, 91, 93, 62] → Written (.fast c)
  | cdelim (c : Nat) : c ∈ [42, 124, 46, 43, 45, 126] → Written (.cdelim c)
  | rpar : Written (.delim 41)
  | op (op : AttrOp) : Written op.lex
  | blank : Written blank
  | not : Written notLex

theorem Written.good {l : Lexeme} (h : Written l) : Good l := by
  cases h with
  | ident h =>
    obtain ⟨c, r, hv, hc⟩ := idVal_head (idVal_of_spells h)
    exact good_of_nmchar h hv hc
  | func h =>
    obtain ⟨name, hname, hv⟩ := funcVal_of_spells h
    obtain ⟨c, r, rfl, hc⟩ := idVal_head hname
    exact good_of_nmchar h hv hc
  | hash h => exact good_of_spells h 35 _ rfl (by decide) (by decide)
  | @string v h =>
    have hw := (spells_iff.mp h).1
    simp only [lexString, Lexeme.wf, Bool.and_eq_true, Bool.or_eq_true, beq_iff_eq] at hw
    refine good_of_spells h (v.headD 0) _ rfl ?_ ?_ <;> rcases hw.1 with hq | hq <;> rw [hq] <;> decide
  | @number v h =>
    have hw := (spells_iff.mp h).1
    simp only [lexNumber, Lexeme.wf, Bool.and_eq_true] at hw
    exact good_numeric _ v h _ _ [] (by simp [lexNumber, Lexeme.render]) hw.1 hw.2
  | @dim v h =>
    have hw := (spells_iff.mp h).1
    simp only [lexDim, Lexeme.wf, Bool.and_eq_true] at hw
    exact good_numeric _ v h _ _ _ rfl hw.1.1 hw.1.2
  | fast c h =>
    exact (by decide +kernel : ∀ c ∈ [58, 91, 93, 62], (Lexeme.fast c).wf = true ∧ sf (.fast c) = true) c h
  | cdelim c h =>
    exact (by decide +kernel :
      ∀ c ∈ [42, 124, 46, 43, 45, 126], (Lexeme.cdelim c).wf = true ∧ sf (.cdelim c) = true) c h
  | rpar => exact ⟨by decide +kernel, by decide +kernel⟩
  | op op => cases op <;> exact ⟨by decide +kernel, by decide +kernel⟩
  | blank => exact ⟨by decide +kernel, by decide +kernel⟩
  | not => exact ⟨by decide +kernel, by decide +kernel⟩

/-- none of them is a comment or has an escape: the token value is the text -/
theorem Written.value {l : Lexeme} (h : Written l) : l.value = l.render := by
  cases h with
  | op op => cases op <;> rfl
  | _ => rfl

def All {α} (P : α → Prop) (l : List α) : Prop := ∀ x ∈ l, P x

theorem All.nil {α} {P : α → Prop} : All P [] := fun _ h => nomatch h
theorem All.cons {α} {P : α → Prop} {a : α} {l : List α} (h1 : P a) (h2 : All P l) : All P (a :: l) :=
  List.forall_mem_cons.mpr ⟨h1, h2⟩
theorem All.append {α} {P : α → Prop} {a b : List α} (h1 : All P a) (h2 : All P b) : All P (a ++ b) :=
  List.forall_mem_append.mpr ⟨h1, h2⟩

theorem written_pfx (p : Pfx) (hp : p.ok = true) : All Written p.lex := by
  cases p with
  | none => exact .nil
  | any => exact .cons (.cdelim 42 (by decide)) (.cons (.cdelim 124 (by decide)) .nil)
  | empty => exact .cons (.cdelim 124 (by decide)) .nil
  | named q => exact .cons (.ident hp) (.cons (.cdelim 124 (by decide)) .nil)

theorem written_head (hd : Head) (hh : hd.ok = true) : All Written hd.lex := by
  cases hd with
  | type p name =>
    simp only [Head.ok, Bool.and_eq_true] at hh
    exact .append (written_pfx p hh.1) (.cons (.ident hh.2) .nil)
  | universal p => exact .append (written_pfx p hh) (.cons (.cdelim 42 (by decide)) .nil)

theorem written_arg (a : ArgTok) (ha : a.ok = true) : Written a.lex := by
  cases a with
  | ident v => exact .ident ha
  | number v => exact .number ha
  | dimension v => exact .dim ha
  | string v => exact .string ha
  | plus => exact .cdelim 43 (by decide)
  | minus => exact .cdelim 45 (by decide)
  | ws => exact .blank

theorem written_simple (s : Simple) (hs : s.ok = true) : All Written s.lex := by
  cases s with
  | id v => exact .cons (.hash hs) .nil
  | cls v =>
    simp only [Simple.ok, Bool.and_eq_true] at hs
    exact .cons (.cdelim 46 (by decide)) (.cons (.ident hs.2) .nil)
  | attrib p name rhs =>
    obtain ⟨elex, eok, -⟩ := attrPfx_eq p
    simp only [Simple.ok, Bool.and_eq_true, eok] at hs
    obtain ⟨⟨hp, hn⟩, hrhs⟩ := hs
    simp only [Simple.lex, elex]
    refine .append (.append (.append (.append (.cons (.fast 91 (by decide)) .nil) (written_pfx _ hp))
      (.cons (.ident hn) .nil)) ?_) (.cons (.fast 93 (by decide)) .nil)
    cases rhs with
    | none => exact .nil
    | some ov =>
      obtain ⟨op, v⟩ := ov
      refine .cons (.op op) (.cons ?_ .nil)
      cases v with
      | ident x => exact .ident hrhs
      | string x => exact .string hrhs
  | pclass v =>
    simp only [Simple.ok, Bool.and_eq_true] at hs
    exact .cons (.fast 58 (by decide)) (.cons (.ident hs.2) .nil)
  | pfunc v a args =>
    simp only [Simple.ok, Bool.and_eq_true, List.all_eq_true] at hs
    obtain ⟨⟨⟨⟨-, hf⟩, -⟩, hargs⟩, -⟩ := hs
    exact .append (.append (.cons (.fast 58 (by decide)) (.cons (.func hf) .nil))
      (List.forall_mem_map.mpr fun b hb => written_arg b (hargs b hb))) (.cons .rpar .nil)

theorem written_part (p : Part) (hp : p.ok = true) : All Written p.lex := by
  cases p with
  | simple s => exact written_simple s hp
  | neg a =>
    refine .append (.append (.cons (.fast 58 (by decide)) (.cons .not .nil)) ?_) (.cons .rpar .nil)
    cases a with
    | type p name => exact written_head (.type p name) hp
    | universal p => exact written_head (.universal p) hp
    | simple s => exact written_simple s hp

theorem written_compound (c : Compound) (hc : c.ok = true) : All Written c.lex := by
  obtain ⟨hd, ps, pe⟩ := c
  simp only [Compound.ok, Bool.and_eq_true, List.all_eq_true] at hc
  obtain ⟨⟨⟨hh, hps⟩, hpe⟩, -⟩ := hc
  refine .append (.append ?_ (List.forall_mem_flatMap.mpr fun p hp => written_part p (hps p hp))) ?_
  · cases hd with
    | none => exact .nil
    | some x => exact written_head x hh
  · cases pe with
    | none => exact .nil
    | some e =>
      cases e with
      | dbl v =>
        simp only [PElem.ok, Bool.and_eq_true] at hpe
        exact .cons (.fast 58 (by decide)) (.cons (.fast 58 (by decide)) (.cons (.ident hpe.2) .nil))
      | legacy v => exact written_simple (.pclass v) hpe

theorem written_comb (cb : Comb) (l : Layout) : All Written (cb.lex l) := by
  have hopt : ∀ b : Bool, All Written (if b then [blank] else []) := by
    intro b; cases b
    · exact .nil
    · exact .cons .blank .nil
  cases cb with
  | descendant => exact .cons .blank .nil
  | child => exact .append (.append (hopt _) (.cons (.fast 62 (by decide)) .nil)) (hopt _)
  | adjacent => exact .append (.append (hopt _) (.cons (.cdelim 43 (by decide)) .nil)) (hopt _)
  | following => exact .append (.append (hopt _) (.cons (.cdelim 126 (by decide)) .nil)) (hopt _)

theorem written_rest : ∀ (rest : List (Comb × Layout × Compound)) (c0 : Compound), restOk c0 rest = true →
    All Written (rest.flatMap (fun x => x.1.lex x.2.1 ++ x.2.2.lex)) := by
  intro rest
  induction rest with
  | nil => intro _ _; exact .nil
  | cons x r ih =>
    intro c0 hok
    obtain ⟨cb, l, c⟩ := x
    obtain ⟨hc, hr⟩ := restOk_cons hok
    rw [List.flatMap_cons]
    exact .append (.append (written_comb cb l) (written_compound c hc)) (ih c hr)

theorem written_sel (σ : Sel) (h : σ.NamesOK = true) : All Written σ.lex := by
  simp only [Sel.NamesOK, Bool.and_eq_true] at h
  exact .append (written_compound σ.first h.1.1) (written_rest σ.rest σ.first h.1.2)

/-- **the lexemes of a selector meet the hypotheses of `C09.classify_sequence`** -/
theorem lex_classify (σ : Sel) (h : σ.NamesOK = true) :
    (∀ l ∈ σ.lex, l.wf = true) ∧ chain canFollow σ.lex = true ∧ ratioFree none σ.lex = true ∧
      startsWithBom (σ.lex.flatMap Lexeme.render) = false := by
  refine ⟨fun l hl => (written_sel σ h l hl).good.1, chain_sel σ h,
    ratioFree_sf σ.lex none (fun l hl => (written_sel σ h l hl).good.2), ?_⟩
  simp only [Sel.NamesOK, Bool.and_eq_true, Bool.not_eq_true'] at h
  exact h.2

theorem tokenize_lexemes (ls : List Lexeme)
    (h : (∀ l ∈ ls, l.wf = true) ∧ chain canFollow ls = true ∧ ratioFree none ls = true ∧
      startsWithBom (ls.flatMap Lexeme.render) = false) :
    (tokenize Gen.tables ⟨false, true⟩ (ls.flatMap Lexeme.render)).toks.map (fun k => (TT.ofString k.typ, k.val)) =
      ls.map tokOf := by
  obtain ⟨hwf, hchain, hratio, hbom⟩ := h
  have := congrArg (List.map (fun p : String × Text => (TT.ofString p.1, p.2)))
    (C09.classify_sequence ls hwf hchain hratio hbom)
  rw [List.map_map, List.map_map] at this
  exact this

/-! ## part 3: the text is the concatenation of the token values -/

def valText (ts : List T2) : Text := ts.flatMap (·.2)

def lexText (ls : List Lexeme) : Text := ls.flatMap Lexeme.render

theorem lexText_cons (a : Lexeme) (b : List Lexeme) : lexText (a :: b) = a.render ++ lexText b := rfl
theorem valText_cons (a : T2) (b : List T2) : valText (a :: b) = a.2 ++ valText b := rfl
theorem lexText_nil : lexText [] = [] := rfl
theorem valText_nil : valText [] = [] := rfl

theorem r_cdelim (c : Nat) : (Lexeme.cdelim c).render = [c] := rfl
theorem r_fast (c : Nat) : (Lexeme.fast c).render = [c] := rfl
theorem r_delim (c : Nat) : (Lexeme.delim c).render = [c] := rfl

/-! The pre-pass only ever pushes a token or glues its value to the value before it, so it keeps the text,
whatever the tokens are. -/

/-- `l` (reversed, like the accumulator) reads as `acc` followed by `v` -/
def TextKept (acc : List T2) (v : Text) (l : List T2) : Prop := valText l.reverse = valText acc.reverse ++ v

theorem TextKept.push {acc : List T2} {v : Text} (x : T2) (h : x.2 = v) : TextKept acc v (x :: acc) := by
  simp [TextKept, valText, h]

theorem TextKept.merge {last : T2} {rest : List T2} {v : Text} (ty : TT) (w : Text) (h : w = last.2 ++ v) :
    TextKept (last :: rest) v ((ty, w) :: rest) := by
  simp [TextKept, valText, h]

theorem ite_cases {α} {P : α → Prop} {c : Prop} [Decidable c] {a b : α} (ha : c → P a) (hb : ¬c → P b) :
    P (if c then a else b) := by
  split
  · exact ha ‹_›
  · exact hb ‹_›

theorem prepassStep_text (T : Tables) (acc : List T2) (t : T2) : TextKept acc t.2 (prepassStep T acc t) := by
  cases acc with
  | nil =>
    exact ite_cases (fun _ => .push _ rfl) fun _ => ite_cases (fun _ => .push _ rfl) fun _ => .push _ rfl
  | cons last rest =>
    have eq : ∀ {a b : Text}, (a == b) = true → a = b := fun h => by simpa using h
    refine ite_cases (fun h => .merge _ _ ?_) fun _ => ite_cases (fun h => .merge _ _ ?_) fun _ =>
      ite_cases (fun _ => .merge _ _ rfl) fun _ => ite_cases (fun h => .merge _ _ ?_) fun _ =>
      ite_cases (fun _ => .merge _ _ rfl) fun _ => ite_cases (fun _ => .merge _ _ rfl) fun _ =>
      ite_cases (fun _ => .push _ rfl) fun _ => ite_cases (fun h => .merge _ _ ?_) fun _ =>
      ite_cases (fun _ => .push _ rfl) fun _ => .push _ rfl
    all_goals simp only [Bool.and_eq_true] at h
    · rw [eq h.1, eq h.2]; decide
    · rw [eq h.2]
    · rw [eq h.2]
    · rw [eq h.1.1]

/-- **the pre-pass keeps the text**: the values of its result concatenate to the same text -/
theorem prepass_text (T : Tables) (ts : List T2) : valText (prepass T ts) = valText ts := by
  have : ∀ (ts acc : List T2), valText (ts.foldl (prepassStep T) acc).reverse = valText acc.reverse ++ valText ts := by
    intro ts
    induction ts with
    | nil => intro acc; simp [valText]
    | cons t ts ih =>
      intro acc
      rw [List.foldl_cons, ih, prepassStep_text T acc t, valText_cons, List.append_assoc]
  simpa [valText, prepass] using this ts []

theorem valText_tokOf : ∀ (ls : List Lexeme), All Written ls → valText (ls.map tokOf) = lexText ls := by
  intro ls
  induction ls with
  | nil => intro _; rfl
  | cons l ls ih =>
    intro h
    rw [List.map_cons, valText_cons, lexText_cons, ih (fun x hx => h x (List.mem_cons_of_mem _ hx)), tokOf_eq,
      (h l List.mem_cons_self).value]

/-- **the text written is the concatenation of the values of the (merged) tokens of the grammar** -/
theorem lex_text (σ : Sel) (h : σ.NamesOK = true) : σ.text = σ.toks.flatMap (·.2) := by
  show lexText σ.lex = valText σ.toks
  rw [← prepass_lex σ h, prepass_text, valText_tokOf σ.lex (written_sel σ h)]

end CssVerif.Selector
