/-
What the expressions of the productions do on the lexemes: numbers (unsigned, signed, RATIO beside them), names
without escapes, the letters of `url(` and `U+`, FUNCTION / HASH / ATKEYWORD, comments, strings without escapes,
and the delimiters that start like a longer token.

The expected *shapes* of the productions are defined here (`numRe`, `ratioRe`, `nameRe`, …); that the
regenerated table has these shapes is an obligation discharged by `rfl`/`decide` in Props/C09.lean.
-/
import CssVerif.Proofs.Classify
import CssVerif.Proofs.ReStar
namespace CssVerif
open Re

/-! ### digits, signs, white space -/

def isDigit (c : Nat) : Bool := 48 ≤ c && c ≤ 57
def isSign (c : Nat) : Bool := c = 43 || c = 45
def isWsC (c : Nat) : Bool := c = 9 || c = 10 || c = 12 || c = 13 || c = 32

def dg : Re := .cls false [(48, 57)]
def sgn : Re := .cls false [(43, 43), (45, 45)]
def dotR : Re := .cls false [(46, 46)]
def pctR : Re := .cls false [(37, 37)]
def slashR : Re := .cls false [(47, 47)]
def wsR : Re := .cls false [(9, 9), (13, 13), (10, 10), (12, 12), (32, 32)]

theorem test_dg : IsTest dg isDigit :=
  (isTest_cls _ _).congr (fun c => by
    simp only [clsMatch, inRanges, isDigit, Bool.or_false, Bool.false_eq_true, if_false])

theorem test_sgn : IsTest sgn isSign :=
  (isTest_cls _ _).congr (fun c => by
    simp only [clsMatch, inRanges_single, isSign, Bool.false_eq_true, if_false]
    simp only [inRanges, Bool.or_false])

theorem test_dot : IsTest dotR (fun c => c == 46) := isTest_char 46

theorem test_slash : IsTest slashR (fun c => c == 47) := isTest_char 47

theorem test_ws : IsTest wsR isWsC :=
  (isTest_cls _ _).congr (fun c => by
    simp only [clsMatch, inRanges_single, isWsC, Bool.false_eq_true, if_false]
    simp only [inRanges, Bool.or_false]
    ac_rfl)

theorem isDigit_iff {c : Nat} : isDigit c = true ↔ 48 ≤ c ∧ c ≤ 57 := by
  simp only [isDigit, Bool.and_eq_true, decide_eq_true_eq]

theorem isWsC_false_of_lt {c : Nat} (h : 32 < c) : isWsC c = false := by
  simp only [isWsC, Bool.or_eq_false_iff, decide_eq_false_iff_not]
  omega

theorem isDigit_ne {c : Nat} (h : isDigit c = true) {a : Nat} (ha : a < 48 ∨ 57 < a) : c ≠ a := by
  have := isDigit_iff.mp h
  omega

theorem isDigit_not_sign {c : Nat} (h : isDigit c = true) : isSign c = false := by
  simp only [isSign, Bool.or_eq_false_iff, decide_eq_false_iff_not]
  exact ⟨isDigit_ne h (by decide), isDigit_ne h (by decide)⟩

theorem isDigit_not_ws {c : Nat} (h : isDigit c = true) : isWsC c = false :=
  isWsC_false_of_lt (by have := isDigit_iff.mp h; omega)

theorem digit_not_dot (c : Nat) (h : isDigit c = true) : (c == 46) = false := by
  simpa using isDigit_ne h (a := 46) (by decide)

/-! ### the number expression on unsigned lexemes -/

/-- `[+-]?[0-9]*\.[0-9]+|[+-]?[0-9]+` -/
def numRe : Re :=
  .alt (.seq (.opt sgn) (.seq (.star dg) (.seq dotR (.seq dg (.star dg)))))
       (.seq (.opt sgn) (.seq dg (.star dg)))

/-- `.` followed by a digit -/
def dotDigit : Text → Bool
  | 46 :: e :: _ => isDigit e
  | _ => false

theorem dotDigit_cons_ne {x : Nat} (h : x ≠ 46) (post : Text) : dotDigit (x :: post) = false := by
  unfold dotDigit
  split
  · rename_i heq
    exact absurd (List.cons.inj heq).1 h
  · rfl

theorem frac_stop (rest : Text) (h : dotDigit rest = false) :
    ms (.seq dotR (.seq dg (.star dg))) rest = [] := by
  cases rest with
  | nil => exact test_dot.seq_stop _ _ (by simp)
  | cons d r =>
    by_cases hd : d = 46
    · subst hd
      rw [test_dot.seq_pos (by rfl)]
      cases r with
      | nil => exact test_dg.seq_stop _ _ (by simp)
      | cons e r' =>
        simp only [dotDigit] at h
        exact test_dg.seq_stop _ _ (by simpa using h)
    · exact test_dot.seq_stop _ _ (by simpa using hd)

/-- what the successes of the number expression look like: the greedy one first, every other one
starts with a digit or a dot of the lexeme -/
def NumRes (l : List Text) (rest : Text) : Prop :=
  l.head? = some rest ∧ ∀ t ∈ l, t = rest ∨ ∃ x post, t = x :: post ∧ (isDigit x = true ∨ x = 46)

theorem numRes_of_backoffs (run rest : Text) (hrun : ∀ x ∈ run, isDigit x = true) :
    NumRes (backoffs run rest) rest := by
  refine ⟨backoffs_head run rest, ?_⟩
  intro t ht
  rcases backoffs_mem ht with h | ⟨x, post, h, hx⟩
  · exact Or.inl h
  · exact Or.inr ⟨x, post, h, Or.inl (hrun x hx)⟩

/-- an integer lexeme: the decimal alternative fails, the integer alternative gives the backoffs of the run -/
theorem numRes_int (c : Nat) (run rest : Text) (hc : isDigit c = true)
    (hrun : ∀ x ∈ run, isDigit x = true) (hrest : ∀ d ∈ rest.head?, isDigit d = false)
    (hdot : dotDigit rest = false) : NumRes (ms numRe (c :: (run ++ rest))) rest := by
  have hopt : ms (.opt sgn) (c :: (run ++ rest)) = [c :: (run ++ rest)] :=
    test_sgn.opt_stop _ (head_cons (isDigit_not_sign hc))
  have hfrac : ms (.seq (.star dg) (.seq dotR (.seq dg (.star dg)))) (c :: (run ++ rest)) = [] := by
    rw [← List.cons_append, test_dg.star_run_seq test_dot digit_not_dot _ (c :: run) rest
      (List.forall_mem_cons.mpr ⟨hc, hrun⟩) hrest]
    exact frac_stop _ hdot
  unfold numRe
  rw [ms_alt, ms_seq_single _ _ _ _ hopt, ms_seq_single _ _ _ _ hopt, hfrac,
    test_dg.plus_run c run rest hc hrun hrest]
  exact numRes_of_backoffs run rest hrun

/-- a decimal lexeme (the integer part may be empty): the decimal alternative gives the backoffs of the
fraction, the integer alternative only texts that start inside the lexeme -/
theorem numRes_dec (ip : Text) (f : Nat) (fs rest : Text) (hip : ∀ x ∈ ip, isDigit x = true)
    (hf : isDigit f = true) (hfs : ∀ x ∈ fs, isDigit x = true)
    (hrest : ∀ d ∈ rest.head?, isDigit d = false) :
    NumRes (ms numRe (ip ++ 46 :: f :: (fs ++ rest))) rest := by
  have hR : ∀ d ∈ (46 :: f :: (fs ++ rest)).head?, isDigit d = false := head_cons rfl
  have hopt : ms (.opt sgn) (ip ++ 46 :: f :: (fs ++ rest)) = [ip ++ 46 :: f :: (fs ++ rest)] := by
    apply test_sgn.opt_stop
    cases ip with
    | nil => exact head_cons rfl
    | cons i is => exact head_cons (isDigit_not_sign (hip _ List.mem_cons_self))
  have hfrac : ms (.seq (.star dg) (.seq dotR (.seq dg (.star dg)))) (ip ++ 46 :: f :: (fs ++ rest))
      = backoffs fs rest := by
    rw [test_dg.star_run_seq test_dot digit_not_dot _ ip _ hip hR,
      test_dot.seq_pos (by rfl)]
    exact test_dg.plus_run f fs rest hf hfs hrest
  unfold numRe
  rw [ms_alt, ms_seq_single _ _ _ _ hopt, ms_seq_single _ _ _ _ hopt, hfrac]
  refine ⟨by rw [List.head?_append, backoffs_head]; rfl, ?_⟩
  intro t ht
  rcases List.mem_append.mp ht with ht | ht
  · exact (numRes_of_backoffs fs rest hfs).2 t ht
  · right
    cases ip with
    | nil =>
      rw [List.nil_append, test_dg.seq_stop _ _ hR] at ht
      cases ht
    | cons i is =>
      rw [List.cons_append, test_dg.plus_run i is _ (hip _ List.mem_cons_self)
        (fun x hx => hip x (List.mem_cons_of_mem _ hx)) hR] at ht
      rcases backoffs_mem ht with rfl | ⟨x, post, rfl, hx⟩
      · exact ⟨46, _, rfl, Or.inr rfl⟩
      · exact ⟨x, post, rfl, Or.inl (hip x (List.mem_cons_of_mem _ hx))⟩

theorem num_then_nil (s rest : Text) (h : NumRes (ms numRe s) rest) (k : Re)
    (hk : ms k rest = []) (hkd : ∀ x post, (isDigit x = true ∨ x = 46) → ms k (x :: post) = []) :
    ms (.seq numRe k) s = [] := by
  rw [ms_seq]
  apply List.flatMap_eq_nil_iff.mpr
  intro t ht
  rcases h.2 t ht with rfl | ⟨x, post, rfl, hx⟩
  · exact hk
  · exact hkd x post hx

theorem num_then_head (s rest t : Text) (h : NumRes (ms numRe s) rest) (k : Re)
    (hk : (ms k rest).head? = some t) : (ms (.seq numRe k) s).head? = some t := by
  rw [ms_seq]
  exact head?_flatMap_of_head h.1 hk

/-! ### RATIO does not match a number -/

/-- `{s}*[0-9]+{s}*/…` -/
def ratioRe (k : Re) : Re :=
  .seq (.star wsR) (.seq dg (.seq (.star dg) (.seq (.star wsR) (.seq slashR k))))

theorem ratio_nil (k : Re) (c : Nat) (run rest : Text) (hc : isDigit c = true)
    (hrun : ∀ x ∈ run, isDigit x = true) (hrest : ∀ d ∈ rest.head?, isDigit d = false)
    (hsl : ∀ d ∈ (rest.dropWhile isWsC).head?, (d == 47) = false) :
    ms (ratioRe k) (c :: (run ++ rest)) = [] := by
  unfold ratioRe
  rw [ms_seq_single _ _ _ _ (test_ws.star_stop _ (head_cons (isDigit_not_ws hc))),
    test_dg.seq_pos hc]
  have hstar := test_dg.star_run run rest hrun hrest
  rw [ms_seq, hstar]
  apply List.flatMap_eq_nil_iff.mpr
  intro t ht
  rcases backoffs_mem ht with rfl | ⟨x, post, rfl, hx⟩
  · exact test_ws.star_then_stop test_slash (by
      intro c hc
      simp only [isWsC, Bool.or_eq_true, decide_eq_true_eq] at hc
      simp; omega) k _ hsl
  · have hxd := hrun x hx
    rw [ms_seq_single _ _ _ _ (test_ws.star_stop _ (head_cons (isDigit_not_ws hxd)))]
    refine test_slash.seq_stop _ _ ?_
    exact head_cons (by simpa using isDigit_ne hxd (a := 47) (by decide))

theorem ratio_nil_of_not_digit (k : Re) (t : Text)
    (ht : ∀ d ∈ t.head?, isDigit d = false ∧ isWsC d = false) : ms (ratioRe k) t = [] := by
  unfold ratioRe
  rw [ms_seq_single _ _ _ _ (test_ws.star_stop _ (fun d hd => (ht d hd).2))]
  exact test_dg.seq_stop _ _ (fun d hd => (ht d hd).1)

theorem ratio_nil_dec (k : Re) (ip tail : Text) (hip : ∀ x ∈ ip, isDigit x = true) :
    ms (ratioRe k) (ip ++ 46 :: tail) = [] := by
  cases ip with
  | nil => exact ratio_nil_of_not_digit k _ (head_cons ⟨rfl, rfl⟩)
  | cons i is =>
    exact ratio_nil k i is (46 :: tail) (hip _ List.mem_cons_self)
      (fun x hx => hip x (List.mem_cons_of_mem _ hx))
      (head_cons rfl) (head_cons rfl)

/-! ### names without escapes -/

def isNmStart (c : Nat) : Bool := c = 95 || (97 ≤ c && c ≤ 122) || (65 ≤ c && c ≤ 90) || 128 ≤ c
def isNmChar (c : Nat) : Bool := isNmStart c || isDigit c || c = 45

theorem isNmStart_ge {c : Nat} (h : isNmStart c = true) : 65 ≤ c ∧ c ≠ 92 := by
  simp only [isNmStart, Bool.or_eq_true, Bool.and_eq_true, decide_eq_true_eq] at h
  omega

theorem isNmChar_ge {c : Nat} (h : isNmChar c = true) : 45 ≤ c ∧ c ≠ 47 ∧ c ≠ 92 := by
  simp only [isNmChar, isNmStart, isDigit, Bool.or_eq_true, Bool.and_eq_true, decide_eq_true_eq] at h
  omega

theorem nmstart_facts {c : Nat} (h : isNmStart c = true) :
    c ≠ 92 ∧ c ≠ 45 ∧ c ≠ 46 ∧ c ≠ 40 ∧ c ≠ 43 ∧ c ≠ 47 ∧ isDigit c = false ∧ isWsC c = false := by
  obtain ⟨h1, h2⟩ := isNmStart_ge h
  refine ⟨h2, by omega, by omega, by omega, by omega, by omega, ?_, isWsC_false_of_lt (by omega)⟩
  simp only [isDigit, Bool.and_eq_false_iff, decide_eq_false_iff_not]
  omega

theorem nmchar_facts {c : Nat} (h : isNmChar c = true) : c ≠ 92 ∧ c ≠ 40 ∧ c ≠ 43 ∧ c ≠ 47 ∧ isWsC c = false := by
  obtain ⟨h1, h2, h3⟩ := isNmChar_ge h
  exact ⟨h3, by omega, by omega, h2, isWsC_false_of_lt (by omega)⟩

/-- a one-character test on every first character other than the backslash -/
structure IsTestExceptBs (a : Re) (P : Nat → Bool) : Prop where
  nil : ms a [] = []
  cons : ∀ c s, c ≠ 92 → ms a (c :: s) = if P c = true then [s] else []

theorem IsTestExceptBs.pos {a : Re} {P : Nat → Bool} (h : IsTestExceptBs a P) {c : Nat} (hb : c ≠ 92)
    (hc : P c = true) (s : Text) : ms a (c :: s) = [s] := by
  rw [h.cons c s hb, if_pos hc]

theorem IsTestExceptBs.stop {a : Re} {P : Nat → Bool} (h : IsTestExceptBs a P) (t : Text)
    (ht : ∀ d ∈ t.head?, P d = false ∧ d ≠ 92) : ms a t = [] := by
  cases t with
  | nil => exact h.nil
  | cons d r =>
    have := ht d (by simp)
    rw [h.cons d r this.2, this.1]; rfl

theorem IsTestExceptBs.star_run {a : Re} {P : Nat → Bool} (h : IsTestExceptBs a P) (run rest : Text)
    (hrun : ∀ c ∈ run, P c = true ∧ c ≠ 92) (hrest : ∀ d ∈ rest.head?, P d = false ∧ d ≠ 92) :
    ms (star a) (run ++ rest) = backoffs run rest :=
  ms_star_run a (fun c => P c && c != 92)
    (fun c s hc => by
      simp only [Bool.and_eq_true, bne_iff_ne, ne_eq] at hc
      exact h.pos hc.2 hc.1 s)
    run rest (fun c hc => by
      have := hrun c hc
      simp [this.1, this.2]) (h.stop rest hrest)

def minusR : Re := .cls false [(45, 45)]
def bsR : Re := .cls false [(92, 92)]

theorem test_minus : IsTest minusR (fun c => c == 45) := isTest_char 45

theorem test_bs : IsTest bsR (fun c => c == 92) := isTest_char 92

theorem inRanges_false_of_bounded (M c : Nat) (hc : M ≤ c) (rs : List (Nat × Nat))
    (h : rs.all (fun lh => lh.2 < M) = true) : inRanges c rs = false := by
  cases hin : inRanges c rs with
  | false => rfl
  | true =>
    obtain ⟨lh, hm, _, hhi⟩ := inRanges_mem hin
    have := List.all_eq_true.mp h lh hm
    simp only [decide_eq_true_eq] at this
    omega

/-- `[ascii class] | [^\0-\177] | \…` -/
def nmRe (rs : List (Nat × Nat)) (X : Re) : Re :=
  .alt (.cls false rs) (.alt (.cls true [(0, 127)]) (.seq bsR X))

theorem test_nm (rs : List (Nat × Nat)) (X : Re) (P : Nat → Bool)
    (hP : ∀ c, P c = (clsMatch false rs c || decide (128 ≤ c)))
    (hrs : rs.all (fun lh => lh.2 < 128) = true) : IsTestExceptBs (nmRe rs X) P := by
  constructor
  · simp [nmRe, bsR, ms]
  · intro c s hc
    have hbs : ms bsR (c :: s) = [] := test_bs.neg (by simpa using hc) s
    unfold nmRe
    rw [ms_alt, ms_alt, ms_seq, hbs, hP]
    by_cases h : 128 ≤ c
    · have hA : inRanges c rs = false := inRanges_false_of_bounded 128 c h rs hrs
      have hB : ¬ c ≤ 127 := by omega
      simp [ms, clsMatch, inRanges, hA, hB, h]
    · have hB : c ≤ 127 := by omega
      simp [ms, clsMatch, inRanges, hB, h]

def nmstartRe (X : Re) : Re := nmRe [(95, 95), (97, 122), (65, 90)] X
def nmcharRe (X : Re) : Re := nmRe [(45, 45), (95, 95), (97, 122), (65, 90), (48, 57)] X

theorem test_nmstart (X : Re) : IsTestExceptBs (nmstartRe X) isNmStart :=
  test_nm _ X _ (fun c => by
      simp only [clsMatch, inRanges_single, isNmStart, Bool.false_eq_true, if_false]
      simp only [inRanges, Bool.or_false, Bool.or_assoc])
    rfl

theorem test_nmchar (X : Re) : IsTestExceptBs (nmcharRe X) isNmChar :=
  test_nm _ X _ (fun c => by
      simp only [clsMatch, inRanges_single, isNmChar, isNmStart, isDigit, Bool.false_eq_true, if_false]
      simp only [inRanges, Bool.or_false]
      ac_rfl)
    rfl

/-- `{nmstart}{nmchar}*` -/
def nameRe (X : Re) : Re := .seq (nmstartRe X) (.star (nmcharRe X))
/-- `-?{nmstart}{nmchar}*` -/
def identRe (X : Re) : Re := .seq (.opt minusR) (nameRe X)

def NameStop (rest : Text) : Prop := ∀ d ∈ rest.head?, isNmChar d = false ∧ d ≠ 92

instance (rest : Text) : Decidable (NameStop rest) := by unfold NameStop; infer_instance

theorem ms_nmchars (X : Re) (us rest : Text) (hus : ∀ x ∈ us, isNmChar x = true) (hrest : NameStop rest) :
    ms (.star (nmcharRe X)) (us ++ rest) = backoffs us rest :=
  (test_nmchar X).star_run us rest (fun x hx => ⟨hus x hx, (nmchar_facts (hus x hx)).1⟩) hrest

/-- an escape-free identifier: optional `-`, a name-start character, name characters -/
def identLex (m : Bool) (u : Nat) (us : Text) : Text := (if m then [45] else []) ++ u :: us

/-- `-?{nmstart} K` on a text that starts with `-`: the minus is read, because it is not a name-start
character -/
theorem ms_minus_cons (X K : Re) (r : Text) :
    ms (.seq (.opt minusR) (.seq (nmstartRe X) K)) (45 :: r) = ms (.seq (nmstartRe X) K) r := by
  have h45 : ms (.seq (nmstartRe X) K) (45 :: r) = [] :=
    ms_seq_nil_left _ _ _ ((test_nmstart X).stop _ (head_cons (by decide)))
  rw [ms_seq, test_minus.opt_pos (by rfl)]
  simp [h45]

/-- `-?{nmstart} K` on an optional `-` and a name-start character: what `K` does on the rest -/
theorem ms_minus_nmstart (X K : Re) (m : Bool) (u : Nat) (t : Text) (hu : isNmStart u = true) :
    ms (.seq (.opt minusR) (.seq (nmstartRe X) K)) ((if m then [45] else []) ++ u :: t) = ms K t := by
  have hbody : ms (.seq (nmstartRe X) K) (u :: t) = ms K t :=
    ms_seq_single _ _ _ _ ((test_nmstart X).pos (nmstart_facts hu).1 hu _)
  cases m with
  | false =>
    simp only [Bool.false_eq_true, if_false, List.nil_append]
    rw [ms_seq_single _ _ _ _ (test_minus.opt_stop _ (by simpa using (nmstart_facts hu).2.1)), hbody]
  | true =>
    simp only [if_true, List.cons_append, List.nil_append]
    rw [ms_minus_cons, hbody]

theorem ms_ident (X : Re) (m : Bool) (u : Nat) (us rest : Text) (hu : isNmStart u = true)
    (hus : ∀ x ∈ us, isNmChar x = true) (hrest : NameStop rest) :
    ms (identRe X) (identLex m u us ++ rest) = backoffs us rest := by
  unfold identRe nameRe identLex
  rw [List.append_assoc, List.cons_append, ms_minus_nmstart X _ m u _ hu]
  exact ms_nmchars X us rest hus hrest

def nameStart : Text → Bool
  | d :: _ => isNmStart d || d == 92
  | [] => false

/-- the text starts like an identifier (or an escape): `-`? then a name-start or a backslash -/
def identStart : Text → Bool
  | d :: r => if d = 45 then nameStart r else nameStart (d :: r)
  | [] => false

theorem minus_nmstart_nil (X K : Re) (t : Text) (h : identStart t = false) :
    ms (.seq (.opt minusR) (.seq (nmstartRe X) K)) t = [] := by
  have hn : ∀ r : Text, nameStart r = false → ms (.seq (nmstartRe X) K) r = [] := by
    intro r hr
    apply ms_seq_nil_left
    apply (test_nmstart X).stop
    cases r with
    | nil => intro d hd; cases hd
    | cons x r' => exact head_cons (by simpa [nameStart] using hr)
  cases t with
  | nil =>
    rw [ms_seq_single _ _ _ _ (test_minus.opt_stop [] (by simp))]
    exact hn [] rfl
  | cons d r =>
    simp only [identStart] at h
    by_cases hd : d = 45
    · subst hd
      simp only [if_true] at h
      rw [ms_minus_cons]
      exact hn r h
    · simp only [hd, if_false] at h
      rw [ms_seq_single _ _ _ _ (test_minus.opt_stop _ (by simpa using hd))]
      exact hn _ h

theorem ident_nil (X : Re) (t : Text) (h : identStart t = false) : ms (identRe X) t = [] :=
  minus_nmstart_nil X _ t h

/-- nothing below `A` starts a name -/
theorem nameStart_false_of_lt {d : Nat} (h : d < 65) (r : Text) : nameStart (d :: r) = false := by
  cases hs : isNmStart d with
  | true => have := (isNmStart_ge hs).1; omega
  | false =>
    have h92 : (d == 92) = false := by simp only [beq_eq_false_iff_ne]; omega
    simp only [nameStart, hs, h92, Bool.or_false]

theorem identStart_digit_dot (x : Nat) (post : Text) (h : isDigit x = true ∨ x = 46) :
    identStart (x :: post) = false := by
  have hx : 46 ≤ x ∧ x ≤ 57 := by
    rcases h with h | h
    · have := isDigit_iff.mp h; omega
    · omega
  rw [identStart, if_neg (by omega)]
  exact nameStart_false_of_lt (by omega) post

theorem identLex_head (m : Bool) (u : Nat) (us rest : Text) (hu : isNmStart u = true) :
    ∃ x post, identLex m u us ++ rest = x :: post ∧ isDigit x = false ∧ x ≠ 46 ∧ x ≠ 47 ∧ isWsC x = false ∧ x ≠ 92 := by
  have := nmstart_facts hu
  cases m with
  | false => exact ⟨u, us ++ rest, rfl, this.2.2.2.2.2.2.1, this.2.2.1, this.2.2.2.2.2.1, this.2.2.2.2.2.2.2, this.1⟩
  | true => exact ⟨45, u :: (us ++ rest), rfl, by decide, by decide, by decide, by decide, by decide⟩

theorem identLex_nmchars (m : Bool) (u : Nat) (us : Text) (hu : isNmStart u = true)
    (hus : ∀ x ∈ us, isNmChar x = true) : ∀ x ∈ identLex m u us, isNmChar x = true := by
  have hu' : isNmChar u = true := by simp [isNmChar, hu]
  cases m with
  | false => exact List.forall_mem_cons.mpr ⟨hu', hus⟩
  | true => exact List.forall_mem_cons.mpr ⟨by decide, List.forall_mem_cons.mpr ⟨hu', hus⟩⟩

theorem identLex_nobs (m : Bool) (u : Nat) (us : Text) (hu : isNmStart u = true)
    (hus : ∀ x ∈ us, isNmChar x = true) : NoBs (identLex m u us) :=
  fun c hc => (nmchar_facts (identLex_nmchars m u us hu hus c hc)).1

/-! ### numeric lexemes -/

/-- `[0-9]+` and `[0-9]*\.[0-9]+` -/
inductive NumLex : Text → Prop
  | int (c : Nat) (run : Text) (hc : isDigit c = true) (hrun : ∀ x ∈ run, isDigit x = true) : NumLex (c :: run)
  | dec (ip : Text) (f : Nat) (fs : Text) (hip : ∀ x ∈ ip, isDigit x = true) (hf : isDigit f = true)
      (hfs : ∀ x ∈ fs, isDigit x = true) : NumLex (ip ++ 46 :: f :: fs)

def numStarts : List Nat := [46, 48, 49, 50, 51, 52, 53, 54, 55, 56, 57]

theorem numStarts_of_digit {c : Nat} (h : isDigit c = true) : c ∈ numStarts :=
  have all : ∀ c, c ≤ 57 → 48 ≤ c → c ∈ numStarts := by decide +kernel
  all c (isDigit_iff.mp h).2 (isDigit_iff.mp h).1

/-- RATIO is switched off by a preceding `(`, or does not match -/
def NoRatio (prev : Option Nat) (t : Text) : Prop := prev = some 40 ∨ ∀ k, ms (ratioRe k) t = []

theorem not_digit_46_mem {l : Text} (h : ∀ x ∈ l, isDigit x = true) : 46 ∉ l := by
  intro hm
  have := h 46 hm
  simp [isDigit] at this

theorem NumLex.head {num : Text} (h : NumLex num) (t : Text) :
    ∃ y r, num ++ t = y :: r ∧ (isDigit y = true ∨ y = 46) := by
  cases h with
  | int c run hc hrun => exact ⟨c, run ++ t, rfl, Or.inl hc⟩
  | dec ip f fs hip hf hfs =>
    cases ip with
    | nil => exact ⟨46, f :: fs ++ t, rfl, Or.inr rfl⟩
    | cons i is => exact ⟨i, _, rfl, Or.inl (hip i List.mem_cons_self)⟩

theorem NumLex.start {num : Text} (h : NumLex num) (t : Text) :
    ∃ c s, num ++ t = c :: s ∧ c ∈ numStarts := by
  obtain ⟨c, s, hcs, hc | rfl⟩ := h.head t
  · exact ⟨c, s, hcs, numStarts_of_digit hc⟩
  · exact ⟨46, s, hcs, by decide⟩

theorem NumLex.nobs {num : Text} (h : NumLex num) : NoBs num := by
  have hd : ∀ x, isDigit x = true → x ≠ 92 := fun x hx => isDigit_ne hx (by decide)
  unfold NoBs
  cases h with
  | int c run hc hrun => exact List.forall_mem_cons.mpr ⟨hd _ hc, fun x hx => hd _ (hrun x hx)⟩
  | dec ip f fs hip hf hfs =>
    exact List.forall_mem_append.mpr ⟨fun x hx => hd _ (hip x hx), List.forall_mem_cons.mpr
      ⟨by decide, List.forall_mem_cons.mpr ⟨hd _ hf, fun x hx => hd _ (hfs x hx)⟩⟩⟩

/-- the successes of the number expression on a numeric lexeme followed by `t`: `t` must not start
with a digit and, after an integer, not with `.digit` -/
theorem NumLex.res {num : Text} (h : NumLex num) (t : Text) (ht : ∀ d ∈ t.head?, isDigit d = false)
    (hdot : 46 ∈ num ∨ dotDigit t = false) : NumRes (ms numRe (num ++ t)) t := by
  cases h with
  | int c run hc hrun =>
    have : dotDigit t = false := by
      rcases hdot with hm | h
      · exact absurd hm (not_digit_46_mem (List.forall_mem_cons.mpr ⟨hc, hrun⟩))
      · exact h
    exact numRes_int c run t hc hrun ht this
  | dec ip f fs hip hf hfs =>
    have := numRes_dec ip f fs t hip hf hfs ht
    simpa [List.append_assoc] using this

theorem NumLex.noRatio {num : Text} (h : NumLex num) (t : Text) (prev : Option Nat)
    (ht : ∀ d ∈ t.head?, isDigit d = false)
    (hsl : 46 ∈ num ∨ prev = some 40 ∨ ∀ d ∈ (t.dropWhile isWsC).head?, (d == 47) = false) :
    NoRatio prev (num ++ t) := by
  cases h with
  | int c run hc hrun =>
    rcases hsl with hm | hp | hs
    · exact absurd hm (not_digit_46_mem (List.forall_mem_cons.mpr ⟨hc, hrun⟩))
    · exact Or.inl hp
    · exact Or.inr (fun k => ratio_nil k c run t hc hrun ht hs)
  | dec ip f fs hip hf hfs =>
    refine Or.inr (fun k => ?_)
    have := ratio_nil_dec k ip (f :: fs ++ t) hip
    simpa [List.append_assoc] using this

theorem NumLex.facts_of_head {num : Text} (h : NumLex num) (prev : Option Nat) (x : Nat) (post : Text)
    (h1 : isDigit x = false) (h2 : x ≠ 46) (h3 : x ≠ 47) (h4 : isWsC x = false) :
    NumRes (ms numRe (num ++ x :: post)) (x :: post) ∧ NoRatio prev (num ++ x :: post) := by
  have ht : ∀ d ∈ (x :: post).head?, isDigit d = false := head_cons h1
  refine ⟨h.res _ ht (Or.inr (dotDigit_cons_ne h2 post)), h.noRatio _ prev ht (Or.inr (Or.inr ?_))⟩
  have : List.dropWhile isWsC (x :: post) = x :: post := by simp [h4]
  rw [this]
  exact head_cons (by simpa using h3)

/-! ### signed numbers -/

theorem unsigned_nil (r : Text) (hr : ∀ d ∈ r.head?, isDigit d = false ∧ (d == 46) = false) :
    ms (.seq (.star dg) (.seq dotR (.seq dg (.star dg)))) r = [] ∧ ms (.seq dg (.star dg)) r = [] := by
  constructor
  · rw [ms_seq_single _ _ _ _ (test_dg.star_stop r (fun d hd => (hr d hd).1))]
    exact test_dot.seq_stop _ _ (fun d hd => (hr d hd).2)
  · exact test_dg.seq_stop _ _ (fun d hd => (hr d hd).1)

theorem sign_head {x : Nat} (hx : isSign x = true) (t : Text) :
    ∀ d ∈ (x :: t).head?, isDigit d = false ∧ (d == 46) = false := by
  simp only [isSign, Bool.or_eq_true, decide_eq_true_eq] at hx
  rcases hx with rfl | rfl <;> exact head_cons ⟨rfl, rfl⟩

theorem num_nil_sign (x : Nat) (t : Text) (hx : isSign x = true)
    (h : ∀ d ∈ t.head?, isDigit d = false ∧ (d == 46) = false) : ms numRe (x :: t) = [] := by
  have hxs := unsigned_nil _ (sign_head hx t)
  unfold numRe
  rw [ms_alt, ms_seq, ms_seq, test_sgn.opt_pos hx]
  simp [(unsigned_nil t h).1, (unsigned_nil t h).2, hxs.1, hxs.2]

theorem ms_num_sign (x : Nat) (t : Text) (hx : isSign x = true)
    (ht : ∀ d ∈ t.head?, isSign d = false) : ms numRe (x :: t) = ms numRe t := by
  have h1 := (unsigned_nil _ (sign_head hx t)).1
  have h2 := (unsigned_nil _ (sign_head hx t)).2
  unfold numRe
  rw [ms_alt, ms_alt, ms_seq, ms_seq, ms_seq_single _ _ _ _ (test_sgn.opt_stop t ht),
    ms_seq_single _ _ _ _ (test_sgn.opt_stop t ht), test_sgn.opt_pos hx]
  simp [h1, h2]

theorem NumLex.res_signed {num : Text} (h : NumLex num) (x : Nat) (hx : isSign x = true) (t : Text)
    (ht : ∀ d ∈ t.head?, isDigit d = false) (hdot : 46 ∈ num ∨ dotDigit t = false) :
    NumRes (ms numRe (x :: (num ++ t))) t := by
  obtain ⟨y, r, hyr, hy⟩ := h.head t
  rw [ms_num_sign x _ hx (by
    rw [hyr]
    rcases hy with hy | rfl
    · exact head_cons (isDigit_not_sign hy)
    · exact head_cons rfl)]
  exact h.res t ht hdot

theorem NumLex.res_signed_of_head {num : Text} (h : NumLex num) (x : Nat) (hx : isSign x = true)
    (y : Nat) (post : Text) (h1 : isDigit y = false) (h2 : y ≠ 46) :
    NumRes (ms numRe (x :: (num ++ y :: post))) (y :: post) := by
  exact h.res_signed x hx _ (head_cons h1) (Or.inr (dotDigit_cons_ne h2 post))

theorem identStart_sign_num {num : Text} (h : NumLex num) (x : Nat) (hx : isSign x = true) (t : Text) :
    identStart (x :: (num ++ t)) = false := by
  obtain ⟨y, r, hyr, hy⟩ := h.head t
  rw [hyr]
  have hy' : y < 65 := by
    rcases hy with hy | hy
    · have := isDigit_iff.mp hy; omega
    · omega
  simp only [isSign, Bool.or_eq_true, decide_eq_true_eq] at hx
  rcases hx with rfl | rfl
  · rw [identStart, if_neg (by decide)]
    exact nameStart_false_of_lt (by decide) _
  · rw [identStart, if_pos rfl]
    exact nameStart_false_of_lt hy' r

/-! ### the letters of `url(` and `U+` on names without escapes -/

/-- every class that can be consumed first is positive and lies below `M` -/
def firstBounded (M : Nat) : Re → Bool
  | .eps => true
  | .cls neg rs => !neg && rs.all (fun lh => lh.2 < M)
  | .seq a b => firstBounded M a && firstBounded M b
  | .alt a b => firstBounded M a && firstBounded M b
  | .star a => firstBounded M a
  | .opt a => firstBounded M a
  | .lazyStar a => firstBounded M a
  | .ahead _ => true
  | .nahead _ _ => true

theorem first_of_bounded (M : Nat) (c : Nat) (hc : M ≤ c) :
    ∀ r : Re, firstBounded M r = true → first r c = false := by
  intro r
  induction r with
  | cls neg rs =>
    intro h
    simp only [firstBounded, Bool.and_eq_true, Bool.not_eq_true'] at h
    simp only [first, clsMatch, h.1, Bool.false_eq_true, if_false]
    exact inRanges_false_of_bounded M c hc rs h.2
  | seq a b iha ihb | alt a b iha ihb =>
    intro h
    simp only [firstBounded, Bool.and_eq_true] at h
    simp [first, iha h.1, ihb h.2]
  | star a iha | opt a iha | lazyStar a iha => intro h; simp only [firstBounded] at h; simp [first, iha h]
  | _ => intro _; rfl

/-- an alternation of classes and backslash-led sequences -/
def oneOrBs : Re → Bool
  | .cls _ _ => true
  | .alt a b => oneOrBs a && oneOrBs b
  | r => startsWithBackslash r

theorem oneOrBs_spec : ∀ r : Re, oneOrBs r = true → ms r [] = [] ∧
    ∀ (c : Nat) (s : Text), c ≠ 92 → ∀ t ∈ ms r (c :: s), t = s ∧ first r c = true := by
  intro r
  induction r with
  | cls neg rs =>
    refine fun _ => ⟨rfl, fun c s _ t ht => ?_⟩
    simp only [ms] at ht
    split at ht
    · rename_i hm
      simp at ht
      exact ⟨ht, by simpa [first] using hm⟩
    · cases ht
  | alt a b iha ihb =>
    intro h
    simp only [oneOrBs, Bool.and_eq_true] at h
    refine ⟨by rw [ms_alt, (iha h.1).1, (ihb h.2).1]; rfl, fun c s hc t ht => ?_⟩
    rw [ms_alt] at ht
    rcases List.mem_append.mp ht with h1 | h1
    · have := (iha h.1).2 c s hc t h1
      exact ⟨this.1, by simp [first, this.2]⟩
    · have := (ihb h.2).2 c s hc t h1
      exact ⟨this.1, by simp [first, this.2]⟩
  | seq a b _ _ =>
    intro h
    have hb : startsWithBackslash (.seq a b) = true := by simpa [oneOrBs] using h
    refine ⟨ms_backslash_nil _ hb [] (by simp), fun c s hc t ht => ?_⟩
    rw [ms_backslash_nil _ hb (c :: s) (head_cons hc)] at ht
    cases ht
  | _ => intro h; simp [oneOrBs, startsWithBackslash] at h

/-- `r` is `U | u | \…`: decidable on a concrete expression -/
def letterOK (r : Re) (U u : Nat) : Bool :=
  oneOrBs r && firstBounded 128 r &&
    (List.range 128).all (fun d => !first r d || d == U || d == u || d == 92)

theorem letterOK_spec (r : Re) (U u : Nat) (h : letterOK r U u = true) (c : Nat) (s : Text) (hc : c ≠ 92) :
    ∀ t ∈ ms r (c :: s), t = s ∧ (c = U ∨ c = u) := by
  intro t ht
  simp only [letterOK, Bool.and_eq_true] at h
  obtain ⟨⟨h1, h2⟩, h3⟩ := h
  have := (oneOrBs_spec r h1).2 c s hc t ht
  refine ⟨this.1, ?_⟩
  have hlt : c < 128 := by
    apply Nat.lt_of_not_le
    intro hge
    rw [first_of_bounded 128 c hge r h2] at this
    cases this.2
  have htab := List.all_eq_true.mp h3 c (List.mem_range.mpr hlt)
  simp only [this.2, Bool.not_true, Bool.false_or, Bool.or_eq_true, beq_iff_eq] at htab
  rcases htab with (h | h) | h
  · exact Or.inl h
  · exact Or.inr h
  · exact absurd h hc

/-- one step of matching `U…` against an escape-free name followed by a non-name character: the
letter expression consumes exactly the first character of the name, which must be the letter -/
theorem letter_then_nil (a K : Re) (U u : Nat) (ha : letterOK a U u = true) (hU : isNmChar U = true)
    (hu : isNmChar u = true) (run rest : Text) (hrun : ∀ x ∈ run, isNmChar x = true) (hrest : NameStop rest)
    (hK : ∀ c run', run = c :: run' → (c = U ∨ c = u) → (∀ x ∈ run', isNmChar x = true) →
      ms K (run' ++ rest) = []) :
    ms (.seq a K) (run ++ rest) = [] := by
  have hnil : ms a [] = [] := by
    simp only [letterOK, Bool.and_eq_true] at ha
    exact (oneOrBs_spec a ha.1.1).1
  rw [ms_seq]
  apply List.flatMap_eq_nil_iff.mpr
  intro t ht
  cases run with
  | nil =>
    rw [List.nil_append] at ht
    cases rest with
    | nil => rw [hnil] at ht; cases ht
    | cons d r =>
      have hd := hrest d (by simp)
      have := (letterOK_spec a U u ha d r hd.2 t ht).2
      rcases this with rfl | rfl
      · rw [hU] at hd; cases hd.1
      · rw [hu] at hd; cases hd.1
  | cons c run' =>
    rw [List.cons_append] at ht
    have hc := (nmchar_facts (hrun c List.mem_cons_self)).1
    have := letterOK_spec a U u ha c (run' ++ rest) hc t ht
    rw [this.1]
    exact hK c run' rfl this.2 (fun x hx => hrun x (List.mem_cons_of_mem _ hx))

def lparR : Re := .cls false [(40, 40)]
def plusR : Re := .cls false [(43, 43)]

theorem test_lpar : IsTest lparR (fun c => c == 40) := isTest_char 40

theorem test_plus : IsTest plusR (fun c => c == 43) := isTest_char 43

/-- `U R L \( …` does not match an escape-free name followed by a non-name character, unless the
name is `url` (any case) and the character is `(` -/
theorem uri_nil (a b c k : Re) (ha : letterOK a 85 117 = true) (hb : letterOK b 82 114 = true)
    (hc : letterOK c 76 108 = true) (run rest : Text) (hrun : ∀ x ∈ run, isNmChar x = true)
    (hrest : NameStop rest)
    (hurl : lowerT run = [117, 114, 108] → ∀ d ∈ rest.head?, (d == 40) = false) :
    ms (.seq a (.seq b (.seq c (.seq lparR k)))) (run ++ rest) = [] := by
  apply letter_then_nil a _ 85 117 ha (by decide) (by decide) run rest hrun hrest
  intro x1 run1 h1 hx1 hrun1
  apply letter_then_nil b _ 82 114 hb (by decide) (by decide) run1 rest hrun1 hrest
  intro x2 run2 h2 hx2 hrun2
  apply letter_then_nil c _ 76 108 hc (by decide) (by decide) run2 rest hrun2 hrest
  intro x3 run3 h3 hx3 hrun3
  apply test_lpar.seq_stop
  cases run3 with
  | nil =>
    rw [List.nil_append]
    apply hurl
    rw [h1, h2, h3]
    rcases hx1 with rfl | rfl <;> rcases hx2 with rfl | rfl <;> rcases hx3 with rfl | rfl <;> decide
  | cons y ys =>
    exact head_cons (by simpa using (nmchar_facts (hrun3 y List.mem_cons_self)).2.1)

/-- `U \+ …` does not match an escape-free name followed by a non-name character, unless the name
is `u`/`U` and the character is `+` -/
theorem urange_nil (a k : Re) (ha : letterOK a 85 117 = true) (run rest : Text)
    (hrun : ∀ x ∈ run, isNmChar x = true) (hrest : NameStop rest)
    (hplus : lowerT run = [117] → ∀ d ∈ rest.head?, (d == 43) = false) :
    ms (.seq a (.seq plusR k)) (run ++ rest) = [] := by
  apply letter_then_nil a _ 85 117 ha (by decide) (by decide) run rest hrun hrest
  intro x1 run1 h1 hx1 hrun1
  apply test_plus.seq_stop
  cases run1 with
  | nil =>
    rw [List.nil_append]
    apply hplus
    rw [h1]
    rcases hx1 with rfl | rfl <;> decide
  | cons y ys =>
    exact head_cons (by simpa using (nmchar_facts (hrun1 y List.mem_cons_self)).2.2.1)

/-! ### FUNCTION, HASH, ATKEYWORD -/

/-- `{s}+` -/
def sRe : Re := .seq wsR (.star wsR)
/-- `-?{nmstart}{nmchar}*\(` -/
def funcRe (X : Re) : Re := .seq (.opt minusR) (.seq (nmstartRe X) (.seq (.star (nmcharRe X)) lparR))
/-- `#{nmchar}+` -/
def hashRe (X : Re) : Re := .seq (.cls false [(35, 35)]) (.seq (nmcharRe X) (.star (nmcharRe X)))
/-- `@-?{nmstart}{nmchar}*` -/
def atRe (X : Re) : Re := .seq (.cls false [(64, 64)]) (identRe X)

theorem ms_func (X : Re) (m : Bool) (u : Nat) (us rest : Text) (hu : isNmStart u = true)
    (hus : ∀ x ∈ us, isNmChar x = true) :
    ms (funcRe X) (identLex m u us ++ 40 :: rest) = [rest] := by
  have hstop : NameStop (40 :: rest) := head_cons (by decide)
  unfold funcRe identLex
  rw [List.append_assoc, List.cons_append, ms_minus_nmstart X _ m u _ hu, ms_seq,
    ms_nmchars X us (40 :: rest) hus hstop, backoffs_flatMap]
  · exact test_lpar.pos (by rfl) rest
  · intro c hc post
    exact test_lpar.neg (by simpa using (nmchar_facts (hus c hc)).2.1) post

theorem ms_hash (X : Re) (n : Nat) (ns rest : Text) (hn : isNmChar n = true)
    (hns : ∀ x ∈ ns, isNmChar x = true) (hrest : NameStop rest) :
    ms (hashRe X) (35 :: n :: (ns ++ rest)) = backoffs ns rest := by
  unfold hashRe
  rw [ms_seq_single _ _ _ _ ((isTest_cls false [(35, 35)]).pos (by decide) _),
    ms_seq_single _ _ _ _ ((test_nmchar X).pos (nmchar_facts hn).1 hn _)]
  exact ms_nmchars X ns rest hns hrest

theorem ms_at (X : Re) (m : Bool) (u : Nat) (us rest : Text) (hu : isNmStart u = true)
    (hus : ∀ x ∈ us, isNmChar x = true) (hrest : NameStop rest) :
    ms (atRe X) (64 :: (identLex m u us ++ rest)) = backoffs us rest := by
  unfold atRe
  rw [ms_seq_single _ _ _ _ ((isTest_cls false [(64, 64)]).pos (by decide) _)]
  exact ms_ident X m u us rest hu hus hrest

/-! ### comments -/

def starC : Re := .cls false [(42, 42)]
def notStarC : Re := .cls true [(42, 42)]
def notSlashStarC : Re := .cls true [(47, 47), (42, 42)]
/-- `[^/*][^*]*\*+` -/
def grpRe : Re := .seq notSlashStarC (.seq (.star notStarC) (.seq starC (.star starC)))
/-- `([^/*][^*]*\*+)*\/` -/
def cTail : Re := .seq (.star grpRe) slashR
/-- `\**([^/*][^*]*\*+)*\/` -/
def cV : Re := .seq (.star starC) cTail
/-- `[^*]*\*\**([^/*][^*]*\*+)*\/` -/
def cW : Re := .seq (.star notStarC) (.seq starC cV)
/-- `\/\*[^*]*\*+([^/*][^*]*\*+)*\/` -/
def commentRe : Re := .seq slashR (.seq starC cW)

theorem test_star : IsTest starC (fun c => c == 42) := isTest_char 42

theorem test_nstar : IsTest notStarC (fun c => c != 42) :=
  (isTest_cls _ _).congr (fun c => by
    simp only [clsMatch, inRanges_single, if_true]
    simp only [inRanges, Bool.or_false]
    rfl)

theorem test_nss : IsTest notSlashStarC (fun c => c != 47 && c != 42) :=
  (isTest_cls _ _).congr (fun c => by
    simp only [clsMatch, inRanges_single, if_true]
    simp only [inRanges, Bool.or_false, Bool.not_or]
    rfl)

theorem ms_seq_assoc (x y z : Re) (s : Text) : ms (.seq (.seq x y) z) s = ms (.seq x (.seq y z)) s := by
  rw [ms_seq, ms_seq, ms_seq, List.flatMap_assoc]
  apply flatMap_congr
  intro t _
  rw [ms_seq]

theorem star_seq_cons (a k : Re) (hn : nullable a = false) (c : Nat) (s : Text) (h : ms a (c :: s) = [s]) :
    ms (.seq (.star a) k) (c :: s) = ms (.seq (.star a) k) s ++ ms k (c :: s) := by
  rw [ms_seq, ms_star_unroll a hn (c :: s), h, ms_seq]
  simp

theorem grp_cTail (c : Nat) (t : Text) :
    ms (.seq grpRe cTail) (c :: t) = if (c != 47 && c != 42) = true then ms cW t else [] := by
  unfold grpRe
  rw [ms_seq_assoc, ms_seq, test_nss.cons]
  split
  · simp only [List.flatMap_cons, List.flatMap_nil, List.append_nil]
    rw [ms_seq_assoc]
    unfold cW cV
    rw [ms_seq, ms_seq]
    apply flatMap_congr
    intro u _
    rw [ms_seq_assoc]
  · rfl

theorem cTail_cons (c : Nat) (t : Text) :
    ms cTail (c :: t) = (if (c != 47 && c != 42) = true then ms cW t else []) ++
      (if (c == 47) = true then [t] else []) := by
  have hn : nullable grpRe = false := rfl
  rw [show cTail = .seq (.star grpRe) slashR from rfl, ms_star_seq_unroll grpRe slashR hn (c :: t)]
  rw [show Re.seq (.star grpRe) slashR = cTail from rfl, grp_cTail, test_slash.cons]

def noClose : Text → Bool
  | [] => true
  | c :: t => !(c == 42 && t.head? == some 47) && noClose t

theorem cW_star (t : Text) : ms cW (42 :: t) = ms cV t := by
  unfold cW
  rw [ms_seq_single _ _ _ _ (test_nstar.star_stop _ (head_cons rfl)), test_star.seq_pos (by rfl)]

theorem cW_other {c : Nat} (hc : c ≠ 42) (t : Text) : ms cW (c :: t) = ms cW t := by
  unfold cW
  rw [star_seq_cons notStarC _ rfl c t (test_nstar.pos (by simpa using hc) t),
    test_star.seq_stop _ _ (head_cons (by simpa using hc)), List.append_nil]

theorem cV_star (t : Text) : ms cV (42 :: t) = ms cV t := by
  unfold cV
  rw [star_seq_cons starC _ rfl 42 t (test_star.pos (by rfl) t), cTail_cons]
  simp

theorem cV_other {c : Nat} (hc : c ≠ 42) (t : Text) : ms cV (c :: t) = ms cTail (c :: t) := by
  unfold cV
  rw [ms_seq_single _ _ _ _ (test_star.star_stop _ (head_cons (by simpa using hc)))]

/-- on a body without `*/` followed by `*/`: the part of the comment expression after `/*` (`cW`) has exactly
one success; so has the part after a first `*` (`cV`), unless the body starts with `/` -/
theorem comment_tails (rest : Text) : ∀ body : Text, noClose body = true →
    ms cW (body ++ 42 :: 47 :: rest) = [rest] ∧
    (body.head? ≠ some 47 → ms cV (body ++ 42 :: 47 :: rest) = [rest]) := by
  have hend : ms cV (47 :: rest) = [rest] := by rw [cV_other (by decide), cTail_cons]; rfl
  intro body
  induction body with
  | nil =>
    intro _
    exact ⟨by rw [List.nil_append, cW_star, hend], fun _ => by rw [List.nil_append, cV_star, hend]⟩
  | cons c b ih =>
    intro hnc
    simp only [noClose, Bool.and_eq_true, Bool.not_eq_true', Bool.and_eq_false_iff, beq_eq_false_iff_ne] at hnc
    obtain ⟨hA, hB⟩ := ih hnc.2
    rw [List.cons_append]
    by_cases hc : c = 42
    · subst hc
      have hb : b.head? ≠ some 47 := by
        rcases hnc.1 with h | h
        · exact absurd rfl h
        · simpa using h
      exact ⟨by rw [cW_star]; exact hB hb, fun _ => by rw [cV_star]; exact hB hb⟩
    · refine ⟨by rw [cW_other hc]; exact hA, fun h47 => ?_⟩
      have hc47 : c ≠ 47 := by simpa using h47
      rw [cV_other hc, cTail_cons]
      simp [hc, hc47, hA]

theorem ms_comment (body rest : Text) (h : noClose body = true) :
    ms commentRe (47 :: 42 :: (body ++ 42 :: 47 :: rest)) = [rest] := by
  unfold commentRe
  rw [test_slash.seq_pos (by rfl), test_star.seq_pos (by rfl)]
  exact (comment_tails rest body h).1

/-! ### strings without escapes -/

/-- `[^…] | \… | \…`: one string character -/
def strCharRe (rs : List (Nat × Nat)) (A B : Re) : Re :=
  .alt (.cls true rs) (.alt (.seq bsR A) (.seq bsR B))

theorem test_strChar (rs : List (Nat × Nat)) (A B : Re) :
    IsTestExceptBs (strCharRe rs A B) (clsMatch true rs) := by
  constructor
  · simp [strCharRe, bsR, ms]
  · intro c s hc
    have hbs : ms bsR (c :: s) = [] := test_bs.neg (by simpa using hc) s
    unfold strCharRe
    rw [ms_alt, ms_alt, ms_seq, ms_seq, hbs]
    simp only [ms, List.flatMap_nil, List.append_nil]

def dqR : Re := .cls false [(34, 34)]
def sqR : Re := .cls false [(39, 39)]
def dqEx : List (Nat × Nat) := [(10, 10), (13, 13), (12, 12), (92, 92), (34, 34)]
def sqEx : List (Nat × Nat) := [(10, 10), (13, 13), (12, 12), (92, 92), (39, 39)]

/-- `"([^\n\r\f\\"]|\…)*" | '([^\n\r\f\\']|\…)*'` -/
def stringRe (A B : Re) : Re :=
  .alt (.seq dqR (.seq (.star (strCharRe dqEx A B)) dqR))
       (.seq sqR (.seq (.star (strCharRe sqEx A B)) sqR))

/-- a character that may appear unescaped in a string quoted with `q` -/
def isStrChar (q c : Nat) : Bool := c != 10 && c != 13 && c != 12 && c != 92 && c != q

theorem test_dq : IsTest dqR (fun c => c == 34) := isTest_char 34

theorem test_sq : IsTest sqR (fun c => c == 39) := isTest_char 39

/-- the class of `dqEx` (`q = 34`) and `sqEx` (`q = 39`) -/
theorem strEx_spec (q c : Nat) :
    clsMatch true [(10, 10), (13, 13), (12, 12), (92, 92), (q, q)] c = isStrChar q c := by
  simp only [clsMatch, inRanges_single, isStrChar, if_true]
  simp only [inRanges, Bool.or_false, Bool.not_or, Bool.and_assoc]
  rfl

theorem ms_quoted (qR : Re) (q : Nat) (hq : IsTest qR (fun c => c == q)) (hq92 : q ≠ 92)
    (rs : List (Nat × Nat)) (A B : Re) (hrs : ∀ c, clsMatch true rs c = isStrChar q c)
    (body rest : Text) (hbody : ∀ c ∈ body, isStrChar q c = true) :
    ms (.seq qR (.seq (.star (strCharRe rs A B)) qR)) (q :: (body ++ q :: rest)) = [rest] := by
  have hch : ∀ c, isStrChar q c = true → c ≠ 92 ∧ c ≠ q := by
    intro c hc
    simp only [isStrChar, Bool.and_eq_true, bne_iff_ne, ne_eq] at hc
    exact ⟨hc.1.2, hc.2⟩
  rw [hq.seq_pos (by simp), ms_seq,
    (test_strChar rs A B).star_run body (q :: rest)
      (fun c hc => ⟨by rw [hrs]; exact hbody c hc, (hch c (hbody c hc)).1⟩)
      (head_cons ⟨by rw [hrs]; simp [isStrChar], hq92⟩),
    backoffs_flatMap]
  · exact hq.pos (by simp) rest
  · intro c hc post
    exact hq.neg (by simpa using (hch c (hbody c hc)).2) post

theorem ms_string_dq (A B : Re) (body rest : Text) (hbody : ∀ c ∈ body, isStrChar 34 c = true) :
    ms (stringRe A B) (34 :: (body ++ 34 :: rest)) = [rest] := by
  unfold stringRe
  rw [ms_alt, ms_quoted dqR 34 test_dq (by decide) dqEx A B (strEx_spec 34) body rest hbody,
    test_sq.seq_stop _ _ (by simp)]
  rfl

theorem ms_string_sq (A B : Re) (body rest : Text) (hbody : ∀ c ∈ body, isStrChar 39 c = true) :
    ms (stringRe A B) (39 :: (body ++ 39 :: rest)) = [rest] := by
  unfold stringRe
  rw [ms_alt, ms_quoted sqR 39 test_sq (by decide) sqEx A B (strEx_spec 39) body rest hbody,
    test_dq.seq_stop _ _ (by simp)]
  rfl

/-! ### delimiters that start like a longer token: when that token's expression fails -/

theorem comment_nil (s : Text) (h : s.head? ≠ some 42) : ms commentRe (47 :: s) = [] := by
  unfold commentRe
  rw [test_slash.seq_pos (by rfl)]
  exact test_star.seq_stop _ _ (head_ne h)

theorem num_nil_dot (s : Text) (h : ∀ d ∈ s.head?, isDigit d = false) : ms numRe (46 :: s) = [] := by
  have hs : ∀ d ∈ (46 :: s).head?, isSign d = false := head_cons rfl
  have hd : ∀ d ∈ (46 :: s).head?, isDigit d = false := head_cons rfl
  unfold numRe
  rw [ms_alt, ms_seq_single _ _ _ _ (test_sgn.opt_stop _ hs), ms_seq_single _ _ _ _ (test_sgn.opt_stop _ hs),
    ms_seq_single _ _ _ _ (test_dg.star_stop _ hd), test_dot.seq_pos (by rfl),
    test_dg.seq_stop _ _ h, test_dg.seq_stop _ _ hd]
  rfl

theorem cdo_nil (K : Re) (s : Text) (h : s.head? ≠ some 33) :
    ms (.seq (.cls false [(60, 60)]) (.seq (.cls false [(33, 33)]) K)) (60 :: s) = [] := by
  rw [ms_seq_single _ _ _ _ ((isTest_char 60).pos (by rfl) s)]
  exact (isTest_char 33).seq_stop _ _ (head_ne h)

theorem hash_nil (X : Re) (s : Text) (h : NameStop s) : ms (hashRe X) (35 :: s) = [] := by
  unfold hashRe
  rw [ms_seq_single _ _ _ _ ((isTest_char 35).pos (by rfl) _)]
  exact ms_seq_nil_left _ _ _ ((test_nmchar X).stop s h)

theorem at_nil (X : Re) (s : Text) (h : identStart s = false) : ms (atRe X) (64 :: s) = [] := by
  unfold atRe
  rw [ms_seq_single _ _ _ _ ((isTest_char 64).pos (by rfl) _)]
  exact ident_nil X s h

end CssVerif
