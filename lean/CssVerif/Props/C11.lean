/-
C11 — Declaration blocks behave as an ordered, cascade-aware property list.

The model (`Model/Decl.lean`) transcribes the methods of `CSSStyleDeclaration` as coded; the
specification (`effective`, `namesSpec`) is written from the property statement.  Every theorem
except `read_after_set` (blocks without duplicate names; `read_after_set_needs_nodup` shows why) is
for an arbitrary block `l`, in particular for `ops.foldl step []`, the state after any operation
history (`reachable_consistent` spells three of them out for it).  The alias clause is decided by
the kernel over the complete table of known property names regenerated from /repo.
-/
import CssVerif.Proofs.Decl
import CssVerif.Gen.Names
namespace CssVerif.C11
open CssVerif CssVerif.Decl

/-- getPropertyValue / getPropertyPriority / `in` / item access all go through the effective entry:
the last `!important` one of that name, else the last one -/
theorem get_effective (l : Block) (n : Nat) : getProperty l n = effective l n := Decl.get_effective l n

theorem value_priority_effective (l : Block) (n : Nat) :
    getPropertyValue l n = (effective l n).map (·.val) ∧
    getPropertyPriority l n = ((effective l n).map (·.imp)).getD false := by
  simp only [getPropertyValue, getPropertyPriority, Decl.get_effective]
  cases effective l n <;> simp

/-- keys, length, item and iteration report the distinct names ordered by last occurrence -/
theorem names_spec (l : Block) : keys l = namesSpec l ∧ length l = (namesSpec l).length ∧ (keys l).Nodup := by
  refine ⟨Decl.names_spec l, by simp [length, Decl.names_spec], ?_⟩
  rw [keys, Decl.names_spec]
  exact Decl.namesSpec_nodup l

theorem item_spec (l : Block) (i : Nat) : item l (i : Int) = (namesSpec l)[i]? := by
  simp [item, Decl.names_spec]

theorem item_negative (l : Block) (k : Nat) (hk : 0 < k) (hle : k ≤ (namesSpec l).length) :
    item l (-(k : Int)) = (namesSpec l)[(namesSpec l).length - k]? := by
  have h1 : ¬ (-(k : Int) ≥ 0) := by omega
  have h2 : (- -(k : Int)).toNat = k := by simp
  simp only [item, h1, if_false, h2, Decl.names_spec]
  simp [hle]

theorem contains_spec (l : Block) (n : Nat) :
    (contains l n = true ↔ ∃ e ∈ l, e.name = n) ∧ contains l n = (getProperty l n).isSome := by
  refine ⟨?_, Decl.contains_eq_isSome_get l n⟩
  simp [contains, Decl.mem_nnames]

/-- iteration: one effective property per key, in key order -/
theorem iter_spec (l : Block) :
    (iter l).map (fun x => x.map (·.name)) = (keys l).map some ∧
    iter l = (keys l).map (effective l) := by
  constructor
  · simp only [iter, keys, List.map_map]
    apply List.map_congr_left
    intro n hn
    obtain ⟨e, hg, _, he⟩ := Decl.get_of_mem_nnames hn
    simp [hg, he]
  · simp only [iter, keys]
    apply List.map_congr_left
    intro n _
    exact Decl.get_effective l n

/-- set with replace: present ⇒ the same names in the same order (what is read back: `read_after_set`);
absent ⇒ appended at the end.  Without replace: appended. -/
theorem set_replace (l : Block) (n lit v : Nat) (imp : Bool) :
    ((∃ e ∈ l, e.name = n) → (setProperty l n lit v imp true).map (·.name) = l.map (·.name)) ∧
    ((∀ e ∈ l, e.name ≠ n) → setProperty l n lit v imp true = l ++ [⟨n, lit, v, imp⟩]) :=
  ⟨Decl.set_replace_names l n lit v imp, Decl.set_append_when_absent l n lit v imp true⟩

theorem set_noreplace (l : Block) (n lit v : Nat) (imp : Bool) :
    setProperty l n lit v imp false = l ++ [⟨n, lit, v, imp⟩] := Decl.set_noreplace l n lit v imp

/-- remove deletes every entry of that name and nothing else -/
theorem remove_all (l : Block) (n : Nat) :
    (∀ e ∈ removeProperty l n, e.name ≠ n) ∧
    (∀ m, m ≠ n → (removeProperty l n).filter (fun e => e.name = m) = l.filter (fun e => e.name = m)) ∧
    (removeProperty l n).Sublist l ∧
    getProperty (removeProperty l n) n = none ∧
    (∀ m, m ≠ n → getProperty (removeProperty l n) m = getProperty l m) :=
  ⟨Decl.remove_no_name l n, fun _ hm => Decl.remove_filter_other l hm, Decl.remove_sublist l n,
   Decl.remove_get_none l n, fun m hm => Decl.remove_get_other l n m hm⟩

/-- blocks without duplicate names: reading a property after setting it returns what was set -/
theorem read_after_set (l : Block) (hnd : (l.map (·.name)).Nodup) (n lit v : Nat) (imp : Bool) :
    getPropertyValue (setProperty l n lit v imp true) n = some v ∧
    getPropertyPriority (setProperty l n lit v imp true) n = imp := by
  obtain ⟨e, he, _, hv, hi⟩ := Decl.read_after_set l hnd n lit v imp
  simp [getPropertyValue, getPropertyPriority, he, hv, hi]

/-- the full statement is false with duplicates: a non-important set on an important effective entry
hands effectiveness to a later duplicate (witness) -/
theorem read_after_set_needs_nodup :
    getPropertyValue (setProperty [⟨0, 0, 1, true⟩, ⟨0, 0, 2, false⟩] 0 0 3 false true) 0 = some 2 := by decide

/-- every state reachable by any history of set / remove / cssText assignment is a block, so all of
the above hold after every step of every history -/
theorem reachable_consistent (ops : List Op) :
    let l := ops.foldl Decl.step []
    keys l = namesSpec l ∧ (∀ n, getProperty l n = effective l n) ∧
      (∀ n, contains l n = (getProperty l n).isSome) :=
  ⟨Decl.names_spec _, fun n => Decl.get_effective _ n, fun n => Decl.contains_eq_isSome_get _ n⟩

/-! ### camel-case aliases: decided on the complete regenerated table -/

/-- assigning the camel-case attribute of every known property sets exactly its hyphenated name -/
theorem alias : ∀ row ∈ Gen.aliasRows, row.eff = row.css := by decide +kernel

/-- the model of `_toDOMname` computes the attribute name the code derives, for every known property -/
theorem toDOM_table : ∀ row ∈ Gen.aliasRows, toDOM Gen.nameTables row.css = row.dom := by decide +kernel

/-- two columns of a table, one of which is a function of the other on every row -/
theorem eq_of_leftInverse {α β γ : Type} {l : List α} {f : α → β} {g : α → γ} (h : β → γ)
    (hl : ∀ a ∈ l, h (f a) = g a) : ∀ a ∈ l, ∀ b ∈ l, f a = f b → g a = g b := by
  intro a ha b hb e
  rw [← hl a ha, ← hl b hb, e]

/-- the hyphenated name read off the attribute name: a hyphen before every capital, made small -/
def unDOM (d : Text) : Text := d.flatMap fun c => if 65 ≤ c ∧ c ≤ 90 then [45, c + 32] else [c]

/-- no two known properties share an attribute name: one pass over the table shows that `unDOM`
recovers each row's name from its attribute -/
theorem dom_injective : ∀ r1 ∈ Gen.aliasRows, ∀ r2 ∈ Gen.aliasRows, r1.dom = r2.dom → r1.css = r2.css :=
  eq_of_leftInverse unDOM (by decide +kernel)

theorem table_nonempty : 100 ≤ Gen.aliasRows.length := by decide +kernel

/-! non-vacuity -/
example : getPropertyValue (setProperty [⟨1, 1, 5, false⟩] 0 0 7 true true) 0 = some 7 := by decide
example : (([⟨1, 1, 5, false⟩] : Block).map (·.name)).Nodup := by decide

end CssVerif.C11
