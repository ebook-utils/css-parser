/-
C01 — Parsing any text terminates and never raises.

What is proved (for inputs of any length), on the models of the layers every parse goes through:
* the tokenizer ends because the text is used up — never out of fuel, never stuck (`tokenizer_total`, C08, on the
  productions regenerated from /repo);
* the boundary finder of statements and declarations consumes tokens one by one and returns the rest unchanged
  in length or shorter (`boundary_total`), so the statement and declaration loops make progress: their result
  does not depend on the fuel once it exceeds the number of tokens (`Upto.split_fuel`, `Upto.dsplit_fuel`);
* whatever an @import fetcher does, loading ends with the rule kept (`fetcher_contained`, C20);
* **no regular expression of the tokenizer can backtrack catastrophically** (`tokenizer_patterns_unambiguous`): on
  the patterns regenerated from /repo every star's ways to go on are told apart within two characters
  (`Model/ReAmbig.lean`).  This obligation found three exponential-time defects in the pinned snapshot (unquoted
  URLs, escapes in unterminated strings, runs of `*` in unterminated comments); their shapes are kept as
  kernel-checked counterexamples (`snapshot_patterns`: the three shapes rejected, the repaired comment pattern
  accepted).
* the hex-colour test pattern ends with `\Z`, not `$`, in both copies (`hexcolor_pattern_ends_strictly`); with `$`,
  `#abc`+newline raised ValueError out of parseString.
* the same obligation on the validation patterns of css_parser.profiles holds for all but the listed ones
  (`profile_patterns`); three of those are confirmed exponential on the implementation and recorded as findings.

What a theorem cannot carry here: exception-freedom of the un-modelled DOM-building code and the actual
running time of CPython's `re` engine — decided by structured fuzzing under a wall-clock watchdog
(harness/props/c01.py).
-/
import CssVerif.Props.C08
import CssVerif.Props.C20
import CssVerif.Proofs.Upto
import CssVerif.Model.ReAmbig
import CssVerif.Gen.Profiles
import CssVerif.Gen.Colors
namespace CssVerif.C01
open CssVerif CssVerif.Re

theorem tokenizer_total (cfg : Cfg) (s : Text) : (tokenize Gen.tables cfg s).endKind = .done :=
  C08.tokenize_total cfg s

theorem boundary_total (fx : Bool) (m : Upto.Mode) (s : Upto.TK) (toks : List Upto.TK) :
    (Upto.upto fx m (some s) toks).2.length ≤ toks.length := Upto.upto_rest_le fx m s toks

theorem fetcher_contained (f : Import.Fetch) : Import.setHref true f ≠ none := by
  rw [C20.fetch_contained]; simp

/-- every pattern of the tokenizer is free of ambiguous loops -/
theorem tokenizer_patterns_unambiguous :
    (Gen.prods.all (fun p => starsOK p.re) && starsOK Gen.bom && starsOK Gen.unicodesub && starsOK Gen.cleanstring &&
      starsOK Gen.simpleescapes) = true := by decide +kernel

/-- the validation patterns that do not pass (to be looked at one by one; see known_findings.json) -/
def flaggedProfiles : List (String × String) := [
  ("CSS Backgrounds and Borders Module Level 3", "box-shadow"),
  ("CSS Fonts Module Level 3 @font-face properties", "font-family"),
  ("CSS Fonts Module Level 3 @font-face properties", "src"),
  ("CSS Level 2.1", "background"), ("CSS Level 2.1", "content"), ("CSS Level 2.1", "counter-increment"),
  ("CSS Level 2.1", "counter-reset"), ("CSS Level 2.1", "font"), ("CSS Level 2.1", "font-family"),
  ("CSS Level 2.1", "list-style"), ("CSS Level 2.1", "quotes"), ("CSS Level 2.1", "voice-family"),
  ("CSS Text Level 3", "text-shadow"), ("CSS3 Paged Media Module", "page")]

theorem profile_patterns :
    (Gen.profileRes.filter (fun p => !starsOK p.2.2)).map (fun p => (p.1, p.2.1)) = flaggedProfiles ∧
    Gen.profileSkipped = [] := by decide +kernel

/-- the pattern that decides whether a HASH is a hex colour ends at the end of the text in both copies (value.py,
prodparser.py): with `$` the HASH `#abc` + newline (written `#abc\\a `) counted as a six-digit colour and the conversion
of its empty last pair raised ValueError out of parseString -/
theorem hexcolor_pattern_ends_strictly : Gen.hexColorStrictEnd = true := by decide

/-- the three exponential shapes of the pinned snapshot are rejected by the analysis, their repairs accepted -/
theorem snapshot_patterns :
    let hexc : Re := .cls false [(48, 57), (65, 70), (97, 102)]
    let plain : Re := .cls true [(10, 10), (13, 13), (12, 12), (92, 92), (34, 34)]
    -- "\A": hex escape or simple escape (only lower-case hex digits excluded)
    starsOK (.seq (.star (.alt plain (.seq (.cls false [(92, 92)]) (.alt (.seq hexc (.opt hexc))
        (.cls true [(10, 10), (13, 13), (12, 12), (48, 57), (97, 102)]))))) (.cls false [(34, 34)])) = false ∧
    -- url(...): the backslash is in the character class and starts an escape
    starsOK (.seq (.star (.alt (.cls false [(33, 33), (35, 38), (40, 40), (42, 126)]) (.seq (.cls false [(92, 92)])
        (.cls true [(10, 10), (48, 57), (65, 70), (97, 102)])))) (.cls false [(41, 41)])) = false ∧
    -- comment: the repeated group may start with "*"
    starsOK (.seq (.star (.cls false [(42, 42)])) (.seq (.star (.seq (.cls true [(47, 47)])
        (.seq (.star (.cls true [(42, 42)])) (.seq (.cls false [(42, 42)]) (.star (.cls false [(42, 42)]))))))
        (.cls false [(47, 47)]))) = false ∧
    starsOK (.seq (.star (.cls false [(42, 42)])) (.seq (.star (.seq (.cls true [(47, 47), (42, 42)])
        (.seq (.star (.cls true [(42, 42)])) (.seq (.cls false [(42, 42)]) (.star (.cls false [(42, 42)]))))))
        (.cls false [(47, 47)]))) = true := by decide +kernel

end CssVerif.C01
