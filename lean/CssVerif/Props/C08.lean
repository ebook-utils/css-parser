/-
C08 — Tokenizing is total, lossless and reports true source positions.

The obligations on the regenerated table `Gen.tables`, which `harness/gen_tables.py` regenerates from /repo on
every run (the four side conditions, decided by the kernel, and the byte-order-mark expression), the facts about
the prelude, and the property theorems: first for an arbitrary table that meets the side conditions, then for
`Gen.tables`.  The facts about one iteration and about the loop are in `Proofs/Tokenizer.lean`.
-/
import CssVerif.Proofs.Tokenizer
import CssVerif.Gen.Productions
namespace CssVerif.C08
open CssVerif Re

/-! ### obligations on the regenerated tables -/

/-- no production can match the empty string (so the loop always advances) -/
theorem gen_nonNullable : allNonNullable Gen.tables = true := by decide +kernel
/-- the fall-back productions cover every code point -/
theorem gen_coversAll : coversAll Gen.tables = true := by decide +kernel
/-- the single-character fast path never sees a newline (column bookkeeping) -/
theorem gen_fastNoNl : fastNoNl Gen.tables = true := by decide +kernel
/-- un-escaping only ever touches text that contains a backslash -/
theorem gen_backslashOnly : backslashOnly Gen.tables = true := by decide +kernel

/-- the byte-order-mark expression of the regenerated table matches only at one of the two marks -/
theorem _root_.CssVerif.gen_bom_none (s : Text) (h : startsWithBom s = false) : exec Gen.tables.bom s = none := by
  apply exec_none_of_ms_nil
  apply List.eq_nil_iff_forall_not_mem.mpr
  intro t ht
  have ht : t ∈ ms Gen.r0 s ++ ms (.seq (.cls false [(239, 239)]) Gen.r1) s := ht
  rcases List.mem_append.mp ht with h1 | h1
  · obtain ⟨_, rfl, h2⟩ := mem_ms_lit_seq h1
    cases mem_ms_lit h2
    cases h
  · obtain ⟨_, rfl, h2⟩ := mem_ms_lit_seq h1
    obtain ⟨_, e, h3⟩ := mem_ms_lit_seq h2
    cases e
    cases mem_ms_lit h3
    cases h

/-! ### prelude (BOM, leading `@charset `) -/

section
variable (T : Tables)

theorem bom_found_prefix (s rem : Text) : consumed s rem ++ s.drop (consumed s rem).length = s :=
  List.prefix_iff_eq_append.mp (consumed_prefix s rem)

theorem hasAt_prefix {s pat : Text} (h : hasAt s pat = true) : pat ++ s.drop pat.length = s := by
  unfold hasAt at h
  exact List.prefix_iff_eq_append.mp (List.isPrefixOf_iff_prefix.mp h)

/-- the prelude's raw matches followed by the loop's start text are the whole text -/
theorem prelude_partition (s : Text) :
    (prelude T s).1.flatMap (·.2) ++ (prelude T s).2.rest = s := by
  unfold prelude
  split
  · rename_i rem _
    simp only
    split
    · rename_i hcs
      simp only [List.flatMap_append, List.flatMap_cons, List.flatMap_nil, List.append_nil, List.append_assoc]
      rw [hasAt_prefix hcs]
      exact bom_found_prefix s rem
    · simp only [List.flatMap_cons, List.flatMap_nil, List.append_nil]
      exact bom_found_prefix s rem
  · simp only
    split
    · rename_i hcs
      simp only [List.nil_append, List.flatMap_cons, List.flatMap_nil, List.append_nil]
      exact hasAt_prefix hcs
    · simp

theorem lineCol_nil : lineCol [] = (1, 1) := by simp [lineCol, countNl]
theorem lineCol_charset : lineCol charsetLit = (1, 10) := by decide +kernel

/-- positions reported by the prelude tokens and handed to the loop, BOM counting as zero width -/
theorem prelude_position (s : Text) :
    ((prelude T s).2.line, (prelude T s).2.col)
        = lineCol (((prelude T s).1.flatMap (·.2)).drop (bomLen T s)) ∧
    bomLen T s ≤ ((prelude T s).1.flatMap (·.2)).length ∧
    ∀ (i : Nat) (p : Tok × Text), (prelude T s).1[i]? = some p →
      (p.1.line, p.1.col) = lineCol ((((prelude T s).1.take i).flatMap (·.2)).drop (bomLen T s)) ∧
      p.1.val = p.2 := by
  unfold prelude bomLen
  split
  · rename_i rem hrem
    simp only
    split
    · simp only [List.flatMap_append, List.flatMap_cons, List.flatMap_nil, List.append_nil,
        List.drop_left, List.length_append]
      refine ⟨by rw [lineCol_charset]; rfl, by omega, ?_⟩
      exact forall_getElem?_cons ⟨by simp [lineCol_nil], rfl⟩
        (forall_getElem?_cons ⟨by simp [lineCol_nil], rfl⟩ forall_getElem?_nil)
    · simp only [List.flatMap_cons, List.flatMap_nil, List.append_nil, List.drop_length]
      refine ⟨by rw [lineCol_nil], by omega, ?_⟩
      exact forall_getElem?_cons ⟨by simp [lineCol_nil], rfl⟩ forall_getElem?_nil
  · simp only
    split
    · simp only [List.nil_append, List.flatMap_cons, List.flatMap_nil, List.append_nil, List.drop_zero]
      refine ⟨by rw [lineCol_charset]; rfl, by omega, ?_⟩
      exact forall_getElem?_cons ⟨by simp [lineCol_nil], rfl⟩ forall_getElem?_nil
    · simp only [List.flatMap_nil, List.drop_nil]
      exact ⟨by rw [lineCol_nil], by simp, forall_getElem?_nil⟩

theorem prelude_rest_suffix (s : Text) : (prelude T s).2.rest <:+ s :=
  ⟨_, prelude_partition T s⟩

end

/-! ### the property, for an arbitrary table satisfying the side conditions -/

section
variable (T : Tables) (hnn : allNonNullable T = true) (hfast : fastNoNl T = true)
include hnn hfast

/-- **total**: the loop ends because the text is used up — never out of fuel, never stuck -/
theorem tokenize_total_of (hcov : coversAll T = true) (cfg : Cfg) (s : Text) :
    (tokenize T cfg s).endKind = .done := by
  simp only [tokenize]
  exact loop_done T hnn hfast hcov cfg _ _ (by omega)

theorem items_flatMap (cfg : Cfg) (s : Text) :
    (tokenize T cfg s).items.flatMap (·.2) =
      (prelude T s).1.flatMap (·.2) ++
        (loop T cfg ((prelude T s).2.rest.length + 1) (prelude T s).2).1.flatMap (·.2) := by
  simp only [tokenize, List.flatMap_append, List.flatMap_map]

/-- **lossless**: the raw matches concatenate to the text, followed by a completion of at most two
characters that is empty outside full-sheet mode -/
theorem partition_of (hcov : coversAll T = true) (cfg : Cfg) (s : Text) :
    ∃ c, (tokenize T cfg s).items.flatMap (·.2) = s ++ c ∧ c.length ≤ 2 ∧
      (cfg.fullsheet = false → c = []) := by
  obtain ⟨c, hc, _, hcl, hcf⟩ :=
    loop_partition T hnn hfast cfg ((prelude T s).2.rest.length + 1) (prelude T s).2
  have hdone := loop_done T hnn hfast hcov cfg ((prelude T s).2.rest.length + 1) (prelude T s).2 (by omega)
  have hnil := loop_rest_nil T cfg _ _ hdone
  rw [hnil, List.append_nil] at hc
  refine ⟨c, ?_, hcl, hcf⟩
  rw [items_flatMap T hnn hfast cfg s, hc, ← List.append_assoc, prelude_partition T s]

/-- **escape-free values**: if the text contains no backslash, every emitted token's value is its
raw match — so the token values themselves concatenate to the text (plus completion) -/
theorem value_eq_raw_of (hbs : backslashOnly T = true) (cfg : Cfg) (s : Text) (hs : ∀ c ∈ s, c ≠ 92) :
    ∀ it ∈ (tokenize T cfg s).items, ∀ t, it.1 = some t → t.val = it.2 := by
  intro it hit t ht
  simp only [tokenize, List.mem_append, List.mem_map] at hit
  rcases hit with ⟨p, hp, rfl⟩ | hit
  · obtain ⟨i, hi⟩ := List.getElem?_of_mem hp
    simp only [Option.some.injEq] at ht
    subst ht
    exact ((prelude_position T s).2.2 i p hi).2
  · have hrest : NoBs (prelude T s).2.rest := fun c hc => hs c ((prelude_rest_suffix T s).subset hc)
    exact loop_values T hnn hfast hbs cfg _ _ hrest it hit t ht

/-- **positions**: the i-th match, if it emitted a token, reports the 1-based line and column of
the place where it starts: the position reached by all earlier raw matches, the byte-order mark
counting as zero width -/
theorem position_of (cfg : Cfg) (s : Text) (i : Nat) (t : Tok) (raw : Text)
    (h : (tokenize T cfg s).items[i]? = some (some t, raw)) :
    (t.line, t.col) = lineCol ((((tokenize T cfg s).items.take i).flatMap (·.2)).drop (bomLen T s)) := by
  obtain ⟨hst, hbl, hpre⟩ := prelude_position T s
  simp only [tokenize] at h ⊢
  by_cases hi : i < (prelude T s).1.length
  · have hi' : i < ((prelude T s).1.map (fun p => (some p.1, p.2))).length := by simpa using hi
    rw [List.getElem?_append_left hi'] at h
    simp only [List.getElem?_map, Option.map_eq_some_iff] at h
    obtain ⟨p, hp, hpe⟩ := h
    have := (hpre i p hp).1
    have hpt : p.1 = t := Option.some.inj (congrArg Prod.fst hpe)
    rw [← hpt, this]
    congr 2
    rw [List.take_append_of_le_length (by simpa using Nat.le_of_lt hi), ← List.map_take, List.flatMap_map]
  · have hge : ((prelude T s).1.map (fun p => ((some p.1 : Option Tok), p.2))).length ≤ i := by
      simpa using Nat.le_of_not_lt hi
    have hmap : ((prelude T s).1.map (fun p => ((some p.1 : Option Tok), p.2))).flatMap (·.2)
        = (prelude T s).1.flatMap (·.2) := List.flatMap_map _ _ _
    rw [List.getElem?_append_right hge] at h
    have hpos := loop_position T hnn hfast cfg _ _ _ t raw h
    rw [hst, lineCol_eq_adv, adv_append, ← lineCol_eq_adv] at hpos
    rw [hpos]
    congr 1
    rw [List.take_append, List.take_of_length_le hge, List.flatMap_append, hmap,
      List.drop_append_of_le_length hbl]

end
end CssVerif.C08

/-! ### the property for the table in /repo today -/
namespace CssVerif.C08
open CssVerif

theorem tokenize_total (cfg : Cfg) (s : Text) : (tokenize Gen.tables cfg s).endKind = .done :=
  tokenize_total_of Gen.tables gen_nonNullable gen_fastNoNl gen_coversAll cfg s

theorem partition (cfg : Cfg) (s : Text) :
    ∃ c, (tokenize Gen.tables cfg s).items.flatMap (·.2) = s ++ c ∧ c.length ≤ 2 ∧
      (cfg.fullsheet = false → c = []) :=
  partition_of Gen.tables gen_nonNullable gen_fastNoNl gen_coversAll cfg s

theorem value_eq_raw (cfg : Cfg) (s : Text) (hs : ∀ c ∈ s, c ≠ 92) :
    ∀ it ∈ (tokenize Gen.tables cfg s).items, ∀ t, it.1 = some t → t.val = it.2 :=
  value_eq_raw_of Gen.tables gen_nonNullable gen_fastNoNl gen_backslashOnly cfg s hs

theorem position (cfg : Cfg) (s : Text) (i : Nat) (t : Tok) (raw : Text)
    (h : (tokenize Gen.tables cfg s).items[i]? = some (some t, raw)) :
    (t.line, t.col) =
      lineCol ((((tokenize Gen.tables cfg s).items.take i).flatMap (·.2)).drop (bomLen Gen.tables s)) :=
  position_of Gen.tables gen_nonNullable gen_fastNoNl cfg s i t raw h

/-- with comments kept, every match emits its token: nothing is dropped from the stream -/
theorem all_emitted (s : Text) (full : Bool) :
    ∀ it ∈ (tokenize Gen.tables ⟨full, true⟩ s).items, it.1.isSome := by
  intro it hit
  simp only [tokenize, List.mem_append, List.mem_map] at hit
  rcases hit with ⟨p, _, rfl⟩ | hit
  · rfl
  · exact loop_emits Gen.tables ⟨full, true⟩ rfl _ _ it hit

/-- non-vacuity: a concrete text with a BOM, an identifier, a newline and an unterminated string -/
example : (tokenize Gen.tables ⟨true, true⟩ [239, 187, 191, 97, 10, 34, 120]).toks.map (fun t => (t.typ, t.line, t.col))
    = [("BOM", 1, 1), ("IDENT", 1, 1), ("S", 1, 2), ("STRING", 2, 1), ("EOF", 2, 4)] := by decide +kernel

end CssVerif.C08
