/-
C19 — A rejected assignment leaves the object unchanged.

`Model/SetterIR.lean` is a small exception-aware IR (stores to fields of the object, points that may raise,
calls of reject-or-commit operations, if/else, loops, returns, function scopes, `try/except: restore; raise`,
`try/finally`) with an abstract semantics `run` that bounds, per outcome kind, the set of fields that may
differ from their value at setter entry.  `Proofs/SetterIR.lean` proves it sound for the concrete
(nondeterministic, state-changing) semantics `Exec`: for programs of any size, loops of any length.

One IR program per text setter of the object model is **regenerated from the Python AST of /repo on every
run** (`harness/gen_setters.py` → `Gen/Setters.lean`), and `Disciplined` — whenever the program raises, no field
differs from its entry value — is decided on each of them by the kernel (`per_setter`).  Moving a commit in
front of a check, dropping a restore from a handler, or adding a raise point after a store changes the IR and
flips the `decide`.

Tie / validation: the classification tables of the translator (which calls are pure, which may raise, which
attribute stores run a parsing setter, which commit-phase stores cannot reject) are the trusted part; they
are printed into the evidence and validated by running every setter on invalid texts on the real objects
(raised ⇒ deep fingerprint of the object and of its owning sheet unchanged).  The same runs are the search
for a failing input when an obligation breaks.
-/
import CssVerif.Proofs.SetterIR
import CssVerif.Gen.Setters
namespace CssVerif.C19
open CssVerif.SetterIR

/-- soundness of the abstract semantics, for every program and every execution -/
theorem ir_sound {σe : State} {p : IR} {σ σ' : State} {r : Res} (h : Exec σe p σ r σ') (D : List Nat)
    (hw : Within σe σ D) : ∃ U, (run p D).get r = some U ∧ Within σe σ' U := sound h D hw

/-- a disciplined setter that raises leaves every field of the object as it was -/
theorem rejected_unchanged (p : IR) (hp : Disciplined p) (σ σ' : State) (h : Exec σ p σ .rais σ') : σ' = σ :=
  unchanged_of_clean h (disciplined_iff.1 hp)

/-- **every text setter of /repo is disciplined** (decided on the regenerated programs) -/
theorem per_setter : ∀ s ∈ Gen.setters, Disciplined s.2 := by decide +kernel

/-- … so whenever one of them raises, the object is unchanged -/
theorem C19 (name : String) (p : IR) (hmem : (name, p) ∈ Gen.setters) (σ σ' : State)
    (h : Exec σ p σ .rais σ') : σ' = σ :=
  rejected_unchanged p (per_setter (name, p) hmem) σ σ' h

/-- the number of setters translated (their names are the first components of `Gen.setters`) -/
theorem coverage : Gen.setters.length = 26 := by decide

/-! ### the shapes of the defects repaired in the pinned snapshot are not disciplined (kernel-checked) -/

/-- commit, then a check that may raise (`Property.priority = '!foo'`, `CSSNamespaceRule.cssText`) -/
theorem snapshot_commit_then_check : ¬ Disciplined (.seq (.store 0) .raise_) := by decide

/-- fields replaced while the rest of the text is still being parsed, no restoring handler
(`CSSMediaRule.cssText`, `MarginRule.cssText`) -/
theorem snapshot_replace_then_parse :
    ¬ Disciplined (.seq (.store 0) (.seq (.loop (.alt .raise_ (.call [1]))) (.store 2))) := by decide

/-- several setters called in a row (`Property.cssText`: name, value, priority) -/
theorem snapshot_setters_in_a_row : ¬ Disciplined (.seq (.call [0]) (.call [1])) := by decide

/-- … and the repaired shapes are -/
theorem repaired_shapes :
    Disciplined (.seq .raise_ (.store 0)) ∧
    Disciplined (.tryRestore [0, 1] (.seq (.store 0) (.seq (.loop (.alt .raise_ (.call [1]))) (.store 2)))) ∧
    Disciplined (.tryRestore [0, 1] (.seq (.call [0]) (.call [1]))) := by decide

/-- non-vacuity: a concrete raising execution of a disciplined program with a restoring handler -/
example : Exec (fun _ => 0) (.tryRestore [0] (.seq (.store 0) .raise_)) (fun _ => 0) .rais
    (restore [0] (fun _ => 0) (fun g => if g = 0 then 7 else 0)) :=
  .tryR _ _ _ _ (.seqN _ _ _ (fun g => if g = 0 then 7 else 0) _ _
    (.store 0 _ _ (fun g hg => by simp at hg; simp [hg])) (.raiseR _))

end CssVerif.C19
