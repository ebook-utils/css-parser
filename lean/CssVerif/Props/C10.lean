/-
C10 — Equivalent spellings (case, escapes, quoting) give the same model.

Statement (given): rewriting a well-formed sheet with spellings CSS defines as equivalent produces the same
object model: any letter case for at-keywords, property names, units, function names, pseudo-class and
pseudo-element names, '!important' and 'url('; any name character written as a backslash escape (hex with
optional terminating white space, or a literal escape); single versus double quotes; quoted versus bare URLs.

Model: `Model/Respell.lean` — the reading the library applies wherever it looks a name up: the tokenizer's
`unicodesub` (the specification `Escape.cssUnescape`, tied to the real regular expression by the `unesc`
correspondence of C13) followed by `helper.normalize` (`stripLit`, `lowerC`; tied by the `norm`
correspondence); the two together, on respelled names, are tied by the `decode` correspondence.  A spelling of a name chooses per character: plain, the other letter case, a
hex escape (0-4 leading zeros, digits in either case, no terminator or one of the five white-space characters)
or a literal escape.

Proved for names of any length and every combination of choices (`spelling_reads_as_name`): the spelling reads
as the name, under exactly the side conditions CSS itself imposes — a literal escape must not be a hex digit,
an unterminated short hex escape must not be followed by a hex digit or white space, a CR terminator not by LF.
Hence any two spellings of a name are looked up alike (`spellings_agree`).  Quote kind (`quote_kind`): for
any quote character `q` other than the backslash, `q v q` with `v` free of backslashes has the value `v` —
whichever `q` is, and whether or not `v` contains it.  Quoted versus bare URLs: `Urls.uri_roundtrip`
(`C12.url_survives`) — a URL without backslash written by `helper.uri`, quoted or bare, reads back as itself.

Partial: the theorem is about the reading of one name.  That every class which holds a name (property names,
priorities, units, function names, pseudo names, at-keywords, `url(`) does apply this reading, and that the
object model of a whole sheet is unchanged by respelling every eligible token, is decided by the oracle on the
implementation (sheets from the grammar G x random respellings, compared through the independent model
extractor).  Names are ASCII in the theorem (`str.lower` on other letters is Python's).  Two recorded findings
(pinned by the existing tests): a literal escape of a name character in an element, class, id or attribute name
of a selector, and in an identifier of a value, is kept in the model.  Defects repaired: see DESIGN.md §6.
-/
import CssVerif.Proofs.Respell
import CssVerif.Proofs.Urls
namespace CssVerif.C10
open CssVerif.Escape CssVerif.Respell

theorem spelling_reads_as_name (l : List (Nat × Sp)) (h : ok l = true) : decode (render l) = l.map (·.1) :=
  decode_render l h

theorem spellings_agree (a b : List (Nat × Sp)) (ha : ok a = true) (hb : ok b = true)
    (hn : a.map (·.1) = b.map (·.1)) : decode (render a) = decode (render b) := by
  rw [decode_render a ha, decode_render b hb, hn]

theorem unescape_id (q : Nat) : ∀ s : Urls.Url, (∀ c ∈ s, c ≠ 92) → Urls.unescape q s = s := by
  intro s
  induction s with
  | nil => intro _; rfl
  | cons c s ih =>
    intro h
    rw [Urls.unescape_cons q c s (h c List.mem_cons_self), ih fun x hx => h x (List.mem_cons_of_mem _ hx)]

/-- a string without backslash has the value between its quotes, whichever quote character is used -/
theorem quote_kind (q : Nat) (v : Urls.Url) (hb : ∀ c ∈ v, c ≠ 92) (hq : q ≠ 92) :
    Urls.stringValue (q :: v ++ [q]) = v := by
  have : ∀ c ∈ q :: v ++ [q], c ≠ 92 := by
    intro c hc
    simp only [List.cons_append, List.mem_cons, List.mem_append, List.mem_nil_iff, or_false] at hc
    rcases hc with rfl | hc | rfl
    · exact hq
    · exact hb c hc
    · exact hq
  show ((Urls.unescape q (q :: v ++ [q])).drop 1).dropLast = v
  rw [unescape_id q _ this]
  exact List.dropLast_concat

/-- non-vacuity: "media" rendered as `M\65 d\000069a` — upper case; a two-digit hex escape ended by a space
(needed: the next character `d` is a hex digit); six digits with nothing after them although the next character
`a` is a hex digit (allowed: with four zeros the six-digit budget is used up); and literal escapes -/
example :
    ok [(109, .upper), (101, .hex 0 54 53 (some 32)), (100, .plain), (105, .hex 4 54 57 none), (97, .plain)] = true ∧
    render [(109, .upper), (101, .hex 0 54 53 (some 32)), (100, .plain), (105, .hex 4 54 57 none), (97, .plain)] =
      [77, 92, 54, 53, 32, 100, 92, 48, 48, 48, 48, 54, 57, 97] ∧
    decode [77, 92, 54, 53, 32, 100, 92, 48, 48, 48, 48, 54, 57, 97] = [109, 101, 100, 105, 97] ∧
    ok [(109, .lit true), (120, .lit false)] = true ∧
    -- what the side conditions exclude really reads differently: `\65d` is U+65D, `\a` is U+000A
    decode [92, 54, 53, 100] ≠ [101, 100] ∧ ok [(101, .hex 0 54 53 none), (100, .plain)] = false ∧
    ok [(97, .lit false)] = false := by decide +kernel

end CssVerif.C10
