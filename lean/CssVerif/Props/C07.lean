/-
C07 — Rule order and containment stay valid under any edit history.

The sheet model (`Model/Sheet.lean`) transcribes insertRule / add / deleteRule / encoding /
namespaces[...] / cssText= as coded (variant `fx = true` = /repo today, after the repairs recorded
in known_findings.json; `fx = false` = the in-order placement of the pinned snapshot).
`Valid` is the statement's ordering condition.  The theorems hold for every operation, an in-order insertion
with an explicit index included: /repo (df1e9ff) ignores that index, which is what `fx = true` models; with the
snapshot's placement `insertRule('@namespace …', 0, inOrder=True)` lands in front of an @import
(`snapshot_inorder_index` is the witness).
-/
import CssVerif.Proofs.Sheet
import CssVerif.Proofs.SheetReparse
namespace CssVerif.C07
open CssVerif CssVerif.Sheet

theorem valid_init : Valid [] := valid_nil

/-- every operation keeps the rule list valid, whether it succeeds or is rejected -/
theorem valid_step (s : Sheet) (hv : Valid s) (op : Op) : Valid (step true s op).1 :=
  step_valid s hv op

/-- a rejected call leaves the list unchanged -/
theorem reject_unchanged (s : Sheet) (op : Op) (e : Err) (h : (step true s op).2 = .raised e) :
    (step true s op).1 = s := step_reject true s op e h

/-- every sheet reachable from the empty sheet by any finite history is valid -/
theorem reachable_valid (ops : List Op) :
    Valid (ops.foldl (fun s op => (step true s op).1) []) := Sheet.reachable_valid ops

/-- whatever text is assigned or parsed, the parse-time ordering machine only ever builds valid lists -/
theorem parse_valid (rs : List Rule) : Valid (parseSheet true rs) := parseSheet_valid rs

/-! ### containers: @media / @page only ever hold kinds they allow -/

/-- `insertRule` of a container: refused and nothing changed, or an allowed kind put at the index -/
theorem containerInsert_shape (forbid kids : List Kind) (k : Kind) (i : Option Nat) :
    (∃ e, containerInsert forbid kids k i = (kids, .raised e)) ∨
    (k ∉ forbid ∧ ∃ j, containerInsert forbid kids k i = (kids.take j ++ k :: kids.drop j, .ok j)) := by
  unfold containerInsert
  simp only
  split
  · exact .inl ⟨_, rfl⟩
  · split
    · exact .inl ⟨_, rfl⟩
    · rename_i hk
      exact .inr ⟨by simpa using hk, _, rfl⟩

theorem container_insert_allowed (forbid kids : List Kind) (k : Kind) (i : Option Nat)
    (h : ∀ x ∈ kids, x ∉ forbid) : ∀ x ∈ (containerInsert forbid kids k i).1, x ∉ forbid := by
  rcases containerInsert_shape forbid kids k i with ⟨e, he⟩ | ⟨hk, j, hj⟩
  · rw [he]; exact h
  · rw [hj]
    intro x hx
    rcases List.mem_append.mp hx with h1 | h1
    · exact h x (List.mem_of_mem_take h1)
    · rcases List.mem_cons.mp h1 with rfl | h2
      · exact hk
      · exact h x (List.mem_of_mem_drop h2)

theorem container_delete_allowed (forbid kids : List Kind) (i : Int)
    (h : ∀ x ∈ kids, x ∉ forbid) : ∀ x ∈ (containerDelete kids i).1, x ∉ forbid := by
  unfold containerDelete
  split
  · exact h
  · intro x hx
    exact h x ((List.eraseIdx_sublist _ _).subset hx)

theorem container_reject_unchanged (forbid kids : List Kind) (k : Kind) (i : Option Nat) (e : Err)
    (h : (containerInsert forbid kids k i).2 = .raised e) : (containerInsert forbid kids k i).1 = kids := by
  rcases containerInsert_shape forbid kids k i with ⟨e', he⟩ | ⟨_, j, hj⟩
  · rw [he]
  · rw [hj] at h; cases h

/-! ### the defect of the pinned snapshot, as a kernel-checked witness on the old placement -/

/-- comment, @import, then `add('@namespace …')` with the snapshot's placement: not valid -/
theorem snapshot_counterexample :
    ¬ Valid (step false [⟨.comment, 0, 0, []⟩, ⟨.import, 0, 0, []⟩]
      (.insert ⟨.namespace, 1, 1, []⟩ none true)).1 := by decide +kernel

/-- an in-order insertion with an explicit index: with the snapshot's placement the @namespace rule lands in
front of the @import, with the repaired one behind it -/
theorem snapshot_inorder_index :
    ¬ Valid (step false [⟨.import, 0, 0, []⟩] (.insert ⟨.namespace, 1, 1, []⟩ (some 0) true)).1 ∧
    Valid (step true [⟨.import, 0, 0, []⟩] (.insert ⟨.namespace, 1, 1, []⟩ (some 0) true)).1 := by decide +kernel

/-- the same history with the repaired placement -/
example : (step true [⟨.comment, 0, 0, []⟩, ⟨.import, 0, 0, []⟩]
      (.insert ⟨.namespace, 1, 1, []⟩ none true)).1.map (·.kind) = [.comment, .import, .namespace] := by decide +kernel

/-! non-vacuity: a non-trivial reachable valid sheet -/
example : Valid [⟨.charset, 1, 0, []⟩, ⟨.comment, 0, 0, []⟩, ⟨.import, 0, 0, []⟩, ⟨.namespace, 1, 1, []⟩,
    ⟨.style, 0, 0, [1]⟩, ⟨.unknown, 0, 0, []⟩, ⟨.media, 0, 0, []⟩] := by decide +kernel

/-! ### re-parse of sheets with @namespace (and @variables) rules

`NsDistinct s`: no two @namespace rules of `s` have the same prefix and no two have the same URI.  It is the
state `_cleanNamespaces` establishes: it holds for the empty sheet, after every operation (whatever the
operation, accepted or refused, and without assuming `Valid`) and after every parse; on such a sheet
every @namespace rule is effective and `_cleanNamespaces` does nothing.  A valid `NsDistinct` list goes through
the parse-time ordering machine unchanged — provided its @variables rules stand where the parser takes them
(`VarOrd`: no @media/@page/style/@font-face rule in front of an @variables rule, no @import/@namespace behind
it).  `Valid` says nothing about @variables, and `VarOrd` is *not* an invariant of the editing operations
(`variables_reachable_counterexample`), so the corollary for reachable sheets keeps it as a hypothesis on the
final sheet; it holds in particular for histories that never bring in an @variables rule. -/

theorem nsdistinct_init : NsDistinct [] := nsdistinct_nil

/-- every operation (all six, accepted or refused) keeps the @namespace rules distinct -/
theorem nsdistinct_step (s : Sheet) (hc : NsDistinct s) (op : Op) : NsDistinct (step true s op).1 :=
  step_nsdistinct s hc op

/-- every sheet reachable from the empty sheet by any finite history has distinct @namespace rules -/
theorem reachable_nsdistinct (ops : List Op) :
    NsDistinct (ops.foldl (fun s op => (step true s op).1) []) :=
  reachable_ind NsDistinct (fun _ => True) nsdistinct_nil (fun s op hc _ => step_nsdistinct s hc op) ops
    fun _ _ => trivial

/-- whatever text is parsed or assigned, the resulting rule list has distinct @namespace rules -/
theorem parse_nsdistinct (rs : List Rule) : NsDistinct (parseSheet true rs) := parseSheet_nsdistinct rs

/-- when the @namespace rules are distinct every one is effective and `_cleanNamespaces` changes nothing -/
theorem nsdistinct_effective_all (s : Sheet) (hc : NsDistinct s) :
    (∀ r ∈ s, r.kind = .namespace → dictGet (view s) r.p = some r.u) ∧ cleanNamespaces s = (s, none) :=
  ⟨fun _ hr hk => (dictGet_eq_some_iff (view_ok s)).2 (nsClean_of_nsDistinct hc _ hr hk), cleanNamespaces_fix hc⟩

/-- **re-parse**: a valid list with distinct @namespace rules whose @variables rules are in parser order goes through the parser's
ordering machine unchanged -/
theorem reparse_same (s : Sheet) (hv : Valid s) (hc : NsDistinct s) (ho : VarOrd s) : parseSheet true s = s :=
  (reparse_same_full s hv hc ho).1

/-- … and no statement is refused (so `cssText = …` with a raising log accepts it too) -/
theorem reparse_nothing_refused (s : Sheet) (hv : Valid s) (hc : NsDistinct s) (ho : VarOrd s) (s0 : Sheet) :
    assignSheet true s0 s = (s, .none) := by
  have h := reparse_same_full s hv hc ho
  have h1 : parseSheet true s = s := h.1
  unfold assignSheet
  unfold parseSheet at h1
  simp only [h.2, if_true, h1]

/-- in particular when there is no @variables rule in the list -/
theorem reparse_same_novariables (s : Sheet) (hv : Valid s) (hc : NsDistinct s) (hn : noVariables s) :
    parseSheet true s = s := reparse_same s hv hc (varOrd_of_noVariables hn)

/-- **re-parse** for sheets without @namespace and @variables rules, a special case of `reparse_same` (the
re-parse oracle of harness/props/c07.py covers the namespace clean-up and the legacy @variables level as well) -/
theorem reparse_same_partial (s : Sheet) (hv : Valid s) (hp : plain s) : parseSheet true s = s :=
  reparse_same_novariables s hv (nsdistinct_of_plain hp) (fun x hx => (hp x hx).2)

example (s : Sheet) (hv : Valid s) (hp : plain s) : parseSheet true s = s := reparse_same_partial s hv hp

/-- corollary: every reachable plain sheet re-parses to itself -/
theorem reachable_reparse (ops : List Op)
    (hp : plain (ops.foldl (fun s op => (step true s op).1) [])) :
    parseSheet true (ops.foldl (fun s op => (step true s op).1) []) =
      ops.foldl (fun s op => (step true s op).1) [] :=
  reparse_same_partial _ (reachable_valid ops) hp

/-- the hypothesis on @variables is needed: `Valid` and `NsDistinct` do not constrain them, the parser does
(an @variables rule behind a style rule is refused; behind an @variables rule @namespace and @import are) -/
theorem reparse_variables_counterexamples :
    (Valid [⟨.style, 0, 0, []⟩, ⟨.variables, 0, 0, []⟩] ∧ NsDistinct [⟨.style, 0, 0, []⟩, ⟨.variables, 0, 0, []⟩] ∧
      parseSheet true [⟨.style, 0, 0, []⟩, ⟨.variables, 0, 0, []⟩] = [⟨.style, 0, 0, []⟩]) ∧
    (Valid [⟨.variables, 0, 0, []⟩, ⟨.namespace, 1, 1, []⟩] ∧
      NsDistinct [⟨.variables, 0, 0, []⟩, ⟨.namespace, 1, 1, []⟩] ∧
      parseSheet true [⟨.variables, 0, 0, []⟩, ⟨.namespace, 1, 1, []⟩] = [⟨.variables, 0, 0, []⟩]) ∧
    (Valid [⟨.variables, 0, 0, []⟩, ⟨.import, 0, 0, []⟩] ∧
      parseSheet true [⟨.variables, 0, 0, []⟩, ⟨.import, 0, 0, []⟩] = [⟨.variables, 0, 0, []⟩]) := by decide +kernel

/-- the hypothesis `NsDistinct` is needed: a repeated prefix is merged, a repeated URI is cleaned away -/
theorem reparse_nsdistinct_counterexamples :
    (Valid [⟨.namespace, 1, 1, []⟩, ⟨.namespace, 1, 2, []⟩] ∧
      parseSheet true [⟨.namespace, 1, 1, []⟩, ⟨.namespace, 1, 2, []⟩] = [⟨.namespace, 1, 2, []⟩]) ∧
    (Valid [⟨.namespace, 1, 1, []⟩, ⟨.namespace, 2, 1, []⟩] ∧
      parseSheet true [⟨.namespace, 1, 1, []⟩, ⟨.namespace, 2, 1, []⟩] = [⟨.namespace, 2, 1, []⟩]) ∧
    (Valid [⟨.namespace, 1, 1, []⟩, ⟨.namespace, 1, 1, []⟩] ∧
      parseSheet true [⟨.namespace, 1, 1, []⟩, ⟨.namespace, 1, 1, []⟩] = [⟨.namespace, 1, 1, []⟩]) := by decide +kernel

/-- **every reachable sheet re-parses to itself** when its @variables rules (if any) are in parser order -/
theorem reachable_reparse_all (ops : List Op)
    (ho : VarOrd (ops.foldl (fun s op => (step true s op).1) [])) :
    parseSheet true (ops.foldl (fun s op => (step true s op).1) []) =
      ops.foldl (fun s op => (step true s op).1) [] :=
  reparse_same _ (reachable_valid ops) (reachable_nsdistinct ops) ho

/-- in particular for every history that never inserts or assigns an @variables rule -/
theorem reachable_reparse_novariables (ops : List Op) (ho : ∀ op ∈ ops, OpNoVar op) :
    parseSheet true (ops.foldl (fun s op => (step true s op).1) []) =
      ops.foldl (fun s op => (step true s op).1) [] :=
  reachable_reparse_all ops
    (varOrd_of_noVariables (reachable_ind noVariables OpNoVar (fun _ h => by cases h)
      (fun s op hn ho => step_noVariables s hn op ho) ops ho))

/-- without that hypothesis the corollary is false of the modelled code: `add('@variables …')` and then
`insertRule(<style rule>, 0)` is accepted (the non-@variables branch of insertRule only looks for
@charset/@import/@namespace behind the index), the list is valid, its @namespace rules are distinct, and its re-parse loses the
@variables rule (the parser refuses @variables after a style rule) -/
theorem variables_reachable_counterexample :
    [Op.insert ⟨.variables, 0, 0, []⟩ none true, Op.insert ⟨.style, 0, 0, []⟩ (some 0) false].foldl
        (fun s op => (step true s op).1) [] = [⟨.style, 0, 0, []⟩, ⟨.variables, 0, 0, []⟩] ∧
    parseSheet true [⟨.style, 0, 0, []⟩, ⟨.variables, 0, 0, []⟩] ≠ [⟨.style, 0, 0, []⟩, ⟨.variables, 0, 0, []⟩] := by
  decide +kernel

/-! non-vacuity: a sheet with a charset, a comment, an import, two namespace rules, an @variables rule,
style rules using both URIs; it is reachable, satisfies the hypotheses and re-parses to itself -/
def demoSheet : Sheet := [⟨.charset, 7, 0, []⟩, ⟨.comment, 0, 0, []⟩, ⟨.import, 0, 0, []⟩,
  ⟨.namespace, 0, 1, []⟩, ⟨.namespace, 2, 3, []⟩, ⟨.variables, 0, 0, []⟩, ⟨.style, 0, 0, [1, 3]⟩,
  ⟨.unknown, 0, 0, []⟩, ⟨.media, 0, 0, [3]⟩, ⟨.style, 0, 0, []⟩]

example : Valid demoSheet ∧ NsDistinct demoSheet ∧ VarOrd demoSheet := by decide +kernel
example : parseSheet true demoSheet = demoSheet := by decide +kernel
example : view demoSheet = [(2, 3), (0, 1)] := by decide +kernel

/-- a history with all six operations that ends in a sheet with two namespace rules, an import, a charset and
style rules using the URIs: `cssText` assignments (the first with two prefixes for one URI), `add`,
`namespaces[p] = u`, an `insertRule` at an index of a second prefix for a declared URI (cleaned away again),
a refused `del namespaces[p]` (URI in use), a `deleteRule`, an `encoding` assignment -/
def demoOps : List Op := [
  .assign [⟨.namespace, 5, 5, []⟩, ⟨.namespace, 6, 5, []⟩, ⟨.style, 0, 0, [5]⟩],
  .assign [⟨.import, 0, 0, []⟩, ⟨.style, 0, 0, []⟩],
  .insert ⟨.namespace, 0, 1, []⟩ none true,
  .nsSet 2 3,
  .insert ⟨.namespace, 4, 1, []⟩ (some 1) false,
  .insert ⟨.style, 0, 0, [1, 3]⟩ none true,
  .nsDel 2,
  .nsSet 9 9,
  .delete 3,
  .encoding (some 7),
  .insert ⟨.media, 0, 0, [3]⟩ none false]

example : demoOps.foldl (fun s op => (step true s op).1) [] =
    [⟨.charset, 7, 0, []⟩, ⟨.import, 0, 0, []⟩, ⟨.namespace, 0, 1, []⟩, ⟨.namespace, 2, 3, []⟩,
     ⟨.style, 0, 0, []⟩, ⟨.style, 0, 0, [1, 3]⟩, ⟨.media, 0, 0, [3]⟩] := by decide +kernel
example : ∀ op ∈ demoOps, OpNoVar op := by decide +kernel

end CssVerif.C07
