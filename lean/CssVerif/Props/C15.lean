/-
C15 — Selectors are bound to namespace URIs, not prefixes.

Selector side (`Model/Selector.lean`, the transcription of `append()` in selector.py): a namespaced item
stores the URI its prefix denotes in the mapping in force at parse time; an undeclared prefix (other than `*`
and the empty one) on a type selector, also inside `:not()`, rejects the selector for good
(`undeclared_rejected`, `undeclared_error`).  Sheet side (`Model/Sheet.lean`, the transcription of `util._Namespaces`,
`CSSStyleSheet.insertRule/deleteRule/_cleanNamespaces` and of `do_css_Selector`'s prefix choice):
the `namespaces` view is a bijection between prefixes and URIs made of entries of @namespace rules in which
later rules win and every rule is accounted for; the prefix chosen at serialisation time denotes the same
URI at parse time; namespace operations never touch a rule that carries selectors; the only @namespace
rule of a URI in use cannot be deleted.

Tie: `sheet` correspondence (operation histories: result, rule list with prefix/URI payload, view), `sel`
correspondence (items with their namespace for every prefix form, declared or not), `nsform`
correspondence (written form of every stored pair under the mapping after every operation).

Reachable states (section `reachable`, lemmas in `Proofs/UsedDeclared.lean`): every sheet reachable by any
history of operations whose payloads use declared URIs only (`OpDeclared`, the caller's side of the API)
has only effective @namespace rules (`NsClean`) and keeps every used URI declared (`UsedDeclared`), so
`Expressible` holds for every type selector bound to a URI; `del namespaces[p]` is specified by `nsDel_spec`
(on sheets whose @namespace rules lead the list; `nsDel_wrong_rule` records what the code does otherwise).
Two recorded findings: `none_pair_finding`, `attr_default_finding`.
-/
import CssVerif.Proofs.SelectorAppend
import CssVerif.Proofs.Namespaces
import CssVerif.Proofs.UsedDeclared
import CssVerif.Gen.Productions
namespace CssVerif.C15
open CssVerif

section selector
open CssVerif.Selector

/-- an undeclared prefix rejects the selector, whatever tokens follow -/
theorem undeclared_rejected (T : Tables) (m : NsMap) (st : Selector.St) (p name : Text) (typ : IT) (rest : List T2)
    (hp : st.pfx = some p) (h1 : p ≠ str "*") (h2 : p ≠ []) (hm : nsGet m p = none)
    (ht : typ = .typesel ∨ typ = .negtypesel) :
    (Selector.finish (rest.foldl (Selector.step T m) (append m st name typ))).wellformed = false := by
  have h := append_type m st name typ (some p) hp ht
  have hr : resolveO m (some p) = none := by simp [resolveO, h1, h2, hm]
  rw [hr] at h
  cases hw : (Selector.finish (rest.foldl (Selector.step T m) (append m st name typ))).wellformed with
  | false => rfl
  | true => have := run_wf T m rest _ (finish_wf _ hw); rw [h.1] at this; cases this

/-- … and the error reported first is NamespaceErr if nothing was wrong before -/
theorem undeclared_error (m : NsMap) (st : Selector.St) (p name : Text)
    (hp : st.pfx = some p) (h1 : p ≠ str "*") (h2 : p ≠ []) (hm : nsGet m p = none) (he : st.firstErr = "") :
    (append m st name .typesel).firstErr = "NamespaceErr" := by
  have h := append_type m st name .typesel (some p) hp (Or.inl rfl)
  have hr : resolveO m (some p) = none := by simp [resolveO, h1, h2, hm]
  rw [hr] at h
  simpa [he] using h.2.2

/-- an accepted type selector stores the URI its prefix denotes (the default namespace without a prefix,
`*|` any, `|` none) -/
theorem stored_uri (m : NsMap) (st : Selector.St) (name : Text) (q : Option Text) (ns : Ns)
    (hq : st.pfx = q) (hr : resolveO m q = some ns) :
    (append m st name .typesel).items = ⟨.typesel, name, some ns⟩ :: st.items := by
  have h := append_type m st name .typesel q hq (Or.inl rfl)
  rw [hr] at h; exact h.1

theorem stored_uri_cases (m : NsMap) (p u : Text) (h1 : p ≠ str "*") (h2 : p ≠ []) (hm : nsGet m p = some u) :
    resolveO m (some p) = some (.uri u) ∧ resolveO m (some (str "*")) = some .any ∧
    resolveO m (some []) = some .empty ∧ resolveO m none = some (defaultNs m) := by
  refine ⟨by simp [resolveO, h1, h2, hm], by simp [resolveO], ?_, rfl⟩
  simp [resolveO, show ¬ str "*" = ([] : Text) by decide]

/-- attribute names are namespaced only with a non-empty prefix -/
theorem attr_unprefixed (m : NsMap) (st : Selector.St) (name : Text) (hq : st.pfx = none) :
    (append m st name .attrsel).items = ⟨.attrsel, name, none⟩ :: st.items := by
  simpa using append_attr m st name none hq

/-- end to end on the regenerated tables (tests, labelled as such) -/
theorem example_undeclared :
    (Selector.parse Gen.tables [(str "p", str "u1")] [(.ident, str "z"), (.char, str "|"), (.ident, str "a")]).firstErr
      = "NamespaceErr" := by decide +kernel

theorem example_declared :
    (Selector.parse Gen.tables [(str "p", str "u1")] [(.ident, str "p"), (.char, str "|"), (.ident, str "a")]).items
      = [⟨.typesel, str "a", some (.uri (str "u1"))⟩] := by decide +kernel

end selector

section sheet
open CssVerif.Sheet

/-- `sheet.namespaces` binds no prefix twice and gives no URI two prefixes -/
theorem view_bijective (s : Sheet) : DictOK (view s) := view_ok s

/-- every entry of it is the (prefix, URI) of an @namespace rule of the sheet -/
theorem view_from_rules (s : Sheet) (p u : Nat) (h : (p, u) ∈ view s) :
    ∃ r ∈ s, r.kind = .namespace ∧ r.p = p ∧ r.u = u := view_sound s p u h

/-- later rules win -/
theorem view_later_wins (s : Sheet) (r : Rule) (pre : List Rule)
    (h : s.filter (isKind .namespace) = pre ++ [r]) : (r.p, r.u) ∈ view s := by
  rw [view_eq, h, List.reverse_append, List.reverse_singleton, List.singleton_append, List.foldl_cons]
  apply viewStep_foldl_mono
  simp [viewStep, dictHasVal, dictHasKey]

/-- no @namespace rule is lost: its prefix is bound or its URI has a prefix -/
theorem view_accounts_for (s : Sheet) (r : Rule) (hr : r ∈ s) (hk : r.kind = .namespace) :
    dictHasKey (view s) r.p = true ∨ dictHasVal (view s) r.u = true := view_covers s r hr hk

/-- the prefix written for a declared URI denotes that URI when the text is parsed again -/
theorem prefix_round_trip (s : Sheet) (u : Nat) (hu : dictHasVal (view s) u = true) :
    ∃ p, prefixFor (view s) u = some p ∧ dictGet (view s) p = some u :=
  prefix_roundtrip (view s) (view_ok s) u hu

/-- serialise → re-parse keeps every expressible pair, under the mapping of any sheet -/
theorem reparse_keeps_pair (s : Sheet) (attr : Bool) (ns : NsV) (he : Expressible (view s) attr ns) :
    resolveForm (view s) attr (serForm (view s) ns) = some ns := reparse_pair (view s) (view_ok s) attr ns he

/-- the recorded finding (see known_findings.json): a selector parsed while no default namespace was declared
holds `None`; once a default namespace exists it is written `|name`, which re-parses as the empty namespace -/
theorem none_pair_finding :
    resolveForm [(0, 1)] false (serForm [(0, 1)] .none) = some .empty ∧ ¬ Expressible [(0, 1)] false .none := by
  refine ⟨by decide, ?_⟩
  simp only [Expressible]; decide

/-- the second recorded finding: an attribute bound to a URI whose only prefix is (now) the default namespace
is written without a prefix, which re-parses as not namespaced -/
theorem attr_default_finding :
    resolveForm [(0, 1)] true (serForm [(0, 1)] (.uri 1)) = some .none ∧ ¬ Expressible [(0, 1)] true (.uri 1) := by
  refine ⟨by decide, ?_⟩
  simp only [Expressible]; decide

/-- `namespaces[p] = u` and inserting an @namespace rule (any index, in order or not, accepted or refused)
leave every rule that carries selectors as it was -/
theorem ns_ops_keep_pairs (fx : Bool) (s : Sheet) :
    (∀ p u, styles (nsSet fx s p u).1 = styles s) ∧
    (∀ r idx io, r.kind = .namespace → styles (insertRule fx s r idx io).1 = styles s) := by
  have hins := fun r idx io (hk : r.kind = .namespace) => styles_insert fx s r idx io true (by simp [isStyled, hk])
  refine ⟨fun p u => ?_, hins⟩
  unfold nsSet
  split
  · have h := hins { kind := .namespace, p := p, u := u } none true rfl
    generalize insertRule fx s { kind := .namespace, p := p, u := u } none true = x at h ⊢
    obtain ⟨s', _ | _ | _⟩ := x <;> exact h
  · split
    · rfl
    · split <;> rfl

/-- the only @namespace rule of a URI in use cannot be deleted -/
theorem in_use_cannot_be_deleted (s : Sheet) (i : Nat) (r : Rule) (hi : s[i]? = some r)
    (hk : r.kind = .namespace) (hu : (usedURIs s).contains r.u = true)
    (h1 : ((s.filter (isKind .namespace)).map (·.u)).count r.u = 1) :
    deleteRule s i = (s, .raised .noModification) := by
  rw [deleteRule_nat s i r hi]
  exact if_pos ⟨hk, by simpa using hu, h1⟩

/-- non-vacuity: a sheet with two prefixes, a default namespace and a used URI -/
def exSheet : Sheet :=
  [{ kind := .namespace, p := 0, u := 3 }, { kind := .namespace, p := 1, u := 1 },
   { kind := .namespace, p := 2, u := 1 }, { kind := .style, used := [1, 3] }]

example : view exSheet = [(2, 1), (0, 3)] ∧ dictHasVal (view exSheet) 1 = true ∧
    deleteRule exSheet 0 = (exSheet, .raised .noModification) ∧
    serForm (view exSheet) (.uri 1) = .named 2 ∧ serForm (view exSheet) (.uri 3) = .bare := by decide +kernel

end sheet

section reachable
open CssVerif.Sheet

/-! ### every reachable sheet keeps its used URIs declared

`UsedDeclared s`: every URI a selector of a style / @media rule of `s` is bound to is a value of
`sheet.namespaces`.  The model fills `Rule.used` with real URIs only (`|a`, `*|a` and unprefixed names
without a default namespace contribute nothing), so no URI stands for "no namespace".
`NsClean s`: every @namespace rule of `s` is effective.  `NsInv s` is the conjunction. -/

/-- the rule-by-rule reading of `UsedDeclared` -/
theorem used_declared_iff (s : Sheet) :
    UsedDeclared s ↔ ∀ r ∈ s, isStyled r = true → ∀ u ∈ r.used, dictHasVal (view s) u = true := by
  constructor
  · intro h r hr hs u hu; exact h u (mem_usedURIs.2 ⟨r, hr, hs, hu⟩)
  · intro h u hu
    obtain ⟨r, hr, hs, hru⟩ := mem_usedURIs.1 hu
    exact h r hr hs u hru

/-- (a) the empty sheet -/
theorem ns_inv_init : NsInv [] := nsInv_nil

/-- (a) every operation — insertRule with any index / in order, deleteRule with any (also negative) index,
encoding, `namespaces[p] = u`, `del namespaces[p]`, `cssText = …` — keeps the invariant, accepted or refused,
provided the caller's payload uses declared URIs only (`OpDeclared`) -/
theorem ns_inv_step (s : Sheet) (op : Op) (h : NsInv s) (hd : OpDeclared true s op) :
    NsInv (Sheet.step true s op).1 := step_inv true s op h hd

/-- the operations that carry no selectors need no hypothesis at all -/
theorem ns_inv_step_free (s : Sheet) (h : NsInv s) :
    (∀ i, NsInv (Sheet.step true s (.delete i)).1) ∧ (∀ e, NsInv (Sheet.step true s (.encoding e)).1) ∧
    (∀ p u, NsInv (Sheet.step true s (.nsSet p u)).1) ∧ (∀ p, NsInv (Sheet.step true s (.nsDel p)).1) ∧
    (∀ r i o, isStyled r = false → NsInv (Sheet.step true s (.insert r i o)).1) :=
  ⟨fun i => step_inv true s (.delete i) h trivial, fun e => step_inv true s (.encoding e) h trivial,
   fun p u => step_inv true s (.nsSet p u) h trivial, fun p => step_inv true s (.nsDel p) h trivial,
   fun r i o hr => step_inv true s (.insert r i o) h (fun hs => by rw [hr] at hs; cases hs)⟩

/-- `OpDeclared` is about the caller, not a defect: the model (like `insertRule` with a ready-made rule
object) stores whatever selectors it is handed; a style rule bound to an undeclared URI breaks the
invariant at once, and so does an assigned text whose style rule uses a URI its @namespace rules do not
declare -/
theorem op_declared_needed :
    (¬ OpDeclared true [] (.insert { kind := .style, used := [1] } none false) ∧
      ¬ UsedDeclared (Sheet.step true [] (.insert { kind := .style, used := [1] } none false)).1) ∧
    (¬ OpDeclared true [] (.assign [{ kind := .namespace, p := 1, u := 2 }, { kind := .style, used := [1] }]) ∧
      ¬ UsedDeclared (Sheet.step true []
        (.assign [{ kind := .namespace, p := 1, u := 2 }, { kind := .style, used := [1] }])).1) := by decide +kernel

/-- a text-only sufficient form of the hypothesis for `cssText = …`: every URI used by a style / @media
statement of the text is declared by the @namespace rules the parse keeps -/
theorem assign_declared_of_text (s : Sheet) (rs : List Rule)
    (h : ∀ u ∈ usedURIs rs, dictHasVal (view (parseLoop true rs 0 [] true).1) u = true) :
    OpDeclared true s (.assign rs) := Sheet.assign_declared_of_text true rs h

/-- (b) `UsedDeclared` alone is not inductive: on a sheet holding an ineffective @namespace rule
(`@namespace p "u1"` shadowed by `@namespace p "u2"`, URI u1 kept alive by `@namespace q "u1"`)
`deleteRule(2)` is allowed (u1 has two rules) and leaves u1 in use but without a prefix.  Such a sheet is
not reachable (`reachable_ns_clean`): every accepted @namespace insertion and every parse end with a
complete `_cleanNamespaces` -/
theorem used_declared_not_inductive :
    let s : Sheet := [{ kind := .namespace, p := 1, u := 1 }, { kind := .namespace, p := 1, u := 2 },
      { kind := .namespace, p := 2, u := 1 }, { kind := .style, used := [1] }]
    UsedDeclared s ∧ ¬ NsClean s ∧ (Sheet.step true s (.delete 2)).2 = .none ∧
      ¬ UsedDeclared (Sheet.step true s (.delete 2)).1 := by decide +kernel

/-- (b) the candidates, on the smallest sheet with a namespace in use: re-declaring the prefix with
another URI, shadowing it by an in-order or indexed @namespace insertion, `del namespaces[p]` and
`deleteRule(-2)` are all refused and leave the sheet as it was -/
theorem in_use_candidates_refused :
    let s : Sheet := [{ kind := .namespace, p := 1, u := 1 }, { kind := .style, used := [1] }]
    Sheet.step true s (.nsSet 1 2) = (s, .raised .noModification) ∧
    Sheet.step true s (.insert { kind := .namespace, p := 1, u := 2 } none true) = (s, .raised .noModification) ∧
    Sheet.step true s (.insert { kind := .namespace, p := 1, u := 2 } (some 1) false) = (s, .raised .noModification) ∧
    Sheet.step true s (.nsDel 1) = (s, .raised .noModification) ∧
    Sheet.step true s (.delete (-2)) = (s, .raised .noModification) := by decide +kernel

/-- (c) every sheet reachable by a history whose payloads use declared URIs only has only effective
@namespace rules … -/
theorem reachable_ns_clean (ops : List Op) (hd : HistDeclared true [] ops) :
    NsClean (ops.foldl (fun s op => (Sheet.step true s op).1) []) := (run_inv true ops [] nsInv_nil hd).1

/-- … and keeps every URI a selector is bound to declared -/
theorem reachable_used_declared (ops : List Op) (hd : HistDeclared true [] ops) :
    UsedDeclared (ops.foldl (fun s op => (Sheet.step true s op).1) []) := (run_inv true ops [] nsInv_nil hd).2

/-- so in every such sheet each used URI has a prefix that denotes it, the serialiser picks such a prefix,
the pair is `Expressible` for a type selector, and serialise → re-parse gives the same pair back -/
theorem reachable_expressible (ops : List Op) (hd : HistDeclared true [] ops) :
    let s := ops.foldl (fun s op => (Sheet.step true s op).1) []
    ∀ u ∈ usedURIs s,
      (∃ p, dictGet (view s) p = some u ∧ prefixFor (view s) u = some p) ∧
      Expressible (view s) false (.uri u) ∧
      resolveForm (view s) false (serForm (view s) (.uri u)) = some (.uri u) := by
  intro s u hu
  have hval := reachable_used_declared ops hd u hu
  obtain ⟨p, hp, hg⟩ := prefix_roundtrip (view s) (view_ok s) u hval
  have he : Expressible (view s) false (.uri u) := ⟨hval, fun h => by cases h⟩
  exact ⟨⟨p, hg, hp⟩, he, reparse_pair (view s) (view_ok s) false (.uri u) he⟩

/-- non-vacuity: a history through every kind of operation, accepted and refused ones (a namespace in use
re-declared, shadowed, deleted; a text assigned), meets the hypothesis; its last sheet holds two used URIs -/
def exHistory : List Op :=
  [.nsSet 1 1, .nsSet 0 2, .insert { kind := .style, used := [1, 2] } none false, .nsSet 2 1, .nsDel 0,
   .insert { kind := .namespace, p := 2, u := 2 } none true,
   .insert { kind := .namespace, p := 2, u := 2 } (some 0) false, .delete (-1), .nsDel 0,
   .insert { kind := .import } none true, .encoding (some 7),
   .insert { kind := .media, used := [1] } none true, .delete 2,
   .assign [{ kind := .namespace, p := 1, u := 1 }, { kind := .namespace, p := 2, u := 1 },
     { kind := .namespace, p := 0, u := 3 }, { kind := .style, used := [1, 3] }],
   .nsSet 0 1, .nsSet 5 3]

example : HistDeclared true [] exHistory ∧
    exHistory.foldl (fun s op => (Sheet.step true s op).1) [] =
      [{ kind := .namespace, p := 2, u := 1 }, { kind := .namespace, p := 5, u := 3 },
       { kind := .style, used := [1, 3] }] := by decide +kernel

/-! ### `del namespaces[p]` -/

/-- what the model does for `del namespaces[p]` on a sheet with only effective @namespace rules (every
reachable sheet) whose @namespace rules lead the list: an undeclared prefix raises NamespaceErr; a prefix
whose URI is in use (and has this one rule) raises NoModificationAllowedErr and nothing changes; otherwise
exactly the @namespace rule of `p` goes, `p` is no longer bound (unless a duplicate rule remains) and every
other prefix keeps its URI -/
theorem nsDel_spec (s : Sheet) (p : Nat) (hc : NsClean s) (hl : nsLead s = true) :
    (dictGet (view s) p = none → nsDel s p = (s, .raised .namespaceErr)) ∧
    (∀ u, dictGet (view s) p = some u →
      if u ∈ usedURIs s ∧ nsCount s u = 1 then nsDel s p = (s, .raised .noModification)
      else (∃ i r, s[i]? = some r ∧ r.kind = .namespace ∧ r.p = p ∧ r.u = u ∧
              nsDel s p = (s.eraseIdx i, .none)) ∧
           (nsCount s u = 1 → dictGet (view (nsDel s p).1) p = none) ∧
           (∀ q, q ≠ p → dictGet (view (nsDel s p).1) q = dictGet (view s) q)) := by
  cases hf : findRuleIdx s p with
  | none =>
    refine ⟨fun _ => (by simp only [nsDel, hf]), fun u h => ?_⟩
    obtain ⟨x, hx, hk, hp, _⟩ := (hc.dictGet_iff p u).1 h
    exact absurd ⟨hk, hp⟩ (findRuleIdx_none hf x hx)
  | some i =>
    obtain ⟨r, hi, hk, hp⟩ := findRuleIdx_some hf
    have hget : dictGet (view s) p = some r.u :=
      (hc.dictGet_iff p r.u).2 ⟨r, List.mem_of_getElem? hi, hk, hp, rfl⟩
    refine ⟨fun h => (by rw [h] at hget; cases hget), fun u h => ?_⟩
    have hru : r.u = u := by rw [h] at hget; exact (Option.some.inj hget).symm
    have hdel : nsDel s p = deleteRule s (i : Int) := by
      simp only [nsDel, hf]
      rw [List.filter_eq_self.2, List.length_range]
      intro j hj
      obtain ⟨y, hy, hyk⟩ := nsLead_spec s hl i r hi hk j (List.mem_range.1 hj)
      simp [hy, hyk]
    rw [hdel, deleteRule_nat s i r hi]
    have hprot : Protected s r ↔ (u ∈ usedURIs s ∧ nsCount s u = 1) := by
      simp [Protected, hk, hru]
    by_cases hpr : Protected s r
    · rw [if_pos (hprot.1 hpr), if_pos hpr]
    · rw [if_neg (mt hprot.2 hpr), if_neg hpr]
      have hc' : NsClean (s.eraseIdx i) := clean_subset (fun x hx => List.mem_of_mem_eraseIdx hx) hc
      have hcons := consistent_of_clean hc
      obtain ⟨A, B, hs, he, _⟩ := split_at s i r hi
      refine ⟨⟨i, r, hi, hk, hp, hru, rfl⟩, ?_, ?_⟩
      · intro hcnt
        cases hg : dictGet (view (s.eraseIdx i)) p with
        | none => rfl
        | some v =>
          exfalso
          obtain ⟨x, hx, hxk, hxp, _⟩ := (hc'.dictGet_iff p v).1 hg
          have hxs : x ∈ s := List.mem_of_mem_eraseIdx hx
          have hxu : x.u = r.u :=
            (hcons x hxs r (List.mem_of_getElem? hi) hxk hk).1 (hxp.trans hp.symm)
          rw [he] at hx
          have hpos := nsCount_of_mem hx hxk
          rw [hs, ← hru, nsCount_append, nsCount_cons_ns r B hk] at hcnt
          rw [hxu, nsCount_append] at hpos
          omega
      · intro q hq
        apply Option.ext
        intro v
        rw [hc'.dictGet_iff q v, hc.dictGet_iff q v]
        constructor
        · rintro ⟨x, hx, hrest⟩
          exact ⟨x, List.mem_of_mem_eraseIdx hx, hrest⟩
        · rintro ⟨x, hx, hxk, hxp, hxu⟩
          refine ⟨x, ?_, hxk, hxp, hxu⟩
          rw [he]
          rw [hs] at hx
          rcases List.mem_append.1 hx with hx | hx
          · exact List.mem_append_left _ hx
          · rcases List.mem_cons.1 hx with rfl | hx
            · exact absurd (hxp.symm.trans hp) hq
            · exact List.mem_append_right _ hx

/-- wherever the @namespace rules stand, `del namespaces[p]` keeps the invariant (it is a `deleteRule`) -/
theorem nsDel_keeps_inv (s : Sheet) (p : Nat) (h : NsInv s) : NsInv (nsDel s p).1 :=
  step_inv true s (.nsDel p) h trivial

/-- why `nsLead` is there: `__delitem__` passes the position *among the @namespace rules* to `deleteRule`.
Behind an @import, `del namespaces['q']` removes `@namespace p` instead (although `p`'s URI could be
protected and `q`'s is not looked at); behind an @charset it removes the @charset rule.  (Noted in DESIGN
as an observation outside the properties; the used-URI invariant survives, see `nsDel_keeps_inv`.) -/
theorem nsDel_wrong_rule :
    nsDel [{ kind := .import }, { kind := .namespace, p := 1, u := 1 }, { kind := .namespace, p := 2, u := 2 },
        { kind := .style, used := [2] }] 2 =
      ([{ kind := .import }, { kind := .namespace, p := 2, u := 2 }, { kind := .style, used := [2] }], .none) ∧
    nsDel [{ kind := .import }, { kind := .namespace, p := 1, u := 1 }, { kind := .namespace, p := 2, u := 2 },
        { kind := .style, used := [1] }] 2 =
      ([{ kind := .import }, { kind := .namespace, p := 1, u := 1 }, { kind := .namespace, p := 2, u := 2 },
        { kind := .style, used := [1] }], .raised .noModification) ∧
    nsDel [{ kind := .charset, p := 7 }, { kind := .namespace, p := 2, u := 1 }, { kind := .media, used := [1] }] 2 =
      ([{ kind := .namespace, p := 2, u := 1 }, { kind := .media, used := [1] }], .none) := by decide +kernel

/-- non-vacuity of `nsDel_spec`: the three outcomes on a clean, @namespace-first sheet -/
example :
    let s : Sheet := [{ kind := .namespace, p := 0, u := 3 }, { kind := .namespace, p := 2, u := 1 },
      { kind := .style, used := [1] }]
    NsClean s ∧ nsLead s = true ∧
    nsDel s 1 = (s, .raised .namespaceErr) ∧ nsDel s 2 = (s, .raised .noModification) ∧
    nsDel s 0 = ([{ kind := .namespace, p := 2, u := 1 }, { kind := .style, used := [1] }], .none) ∧
    view (nsDel s 0).1 = [(2, 1)] := by decide +kernel

end reachable
end CssVerif.C15
