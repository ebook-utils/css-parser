/-
C03 — Serialising and re-parsing preserves the model; output is a fixpoint.

Statement (given): for every sheet, rule, selector, declaration block, media list or value obtained by parsing
supported-grammar input, its serialised text re-parses to an equal object (same rule sequence and types, same
namespace-expanded selector components and specificity, same declarations in order, same media queries, URLs,
strings and validity verdicts); serialising the re-parsed object gives identical text.  Numbers may be
normalised only within documented limits (6 decimal places; a zero length may lose its unit).

Model: the serialiser of values (`do_css_PropertyValue`, `do_css_CSSFunction`, `do_css_CSSCalc` through
`Out.append`) as the kinds of the tokens it writes (`Value.serValue`), next to the value parser of C02.

Proved, for every well-formed value of any size and nesting depth and every setting of the preferences:
* `written_is_a_writing` — what the serialiser writes is one of the writings of the value (white space where
  two terms meet, after calc operators on both sides, none lost before `)`, `,` or `/`);
* `reparse_value` — so re-parsing the written tokens gives the value back;
* `fixpoint_value` — and serialising the re-parsed value gives the same tokens again.
The other parts of the statement are theorems of the properties that own them, cited here so that the audit of
this property covers them: numbers to 6 places (`C17.round6_close`; see also `C17.fmt_reparse_partial`), hash colours
(`C17.hash_shorten`), strings and URLs (`C12.string_survives`, `url_survives`), namespace pairs
(`C15.reparse_keeps_pair`), the rule sequence (`C07.reparse_same_partial`).

Tie: `vser` — parse the token kinds of a value text, serialise, against the kinds of the tokens of the real
`PropertyValue(text).cssText`.
Partial: sheets, rules, selectors, declaration blocks, media lists as wholes — and every sub-object taken alone —
are decided by the oracle on the implementation (re-parse equality through the independent model extractor,
byte equality of the second serialisation, validity verdicts).
-/
import CssVerif.Proofs.Value
import CssVerif.Props.C17
import CssVerif.Props.C12
import CssVerif.Props.C15
import CssVerif.Props.C07
namespace CssVerif.C03
open CssVerif.Value

theorem written_is_a_writing (p : SerPrefs) (v : Value) (h : wfValue v = true) : RValue v (serValue p v) :=
  ser_value p v h

theorem reparse_value (p : SerPrefs) (v : Value) (h : wfValue v = true) : pvalue (serValue p v) = some v :=
  pvalue_ok v _ (ser_value p v h)

theorem fixpoint_value (p : SerPrefs) (v : Value) (h : wfValue v = true) :
    (pvalue (serValue p v)).map (serValue p) = some (serValue p v) := by
  rw [reparse_value p v h]; rfl

/-- cited (C17): the number written is the value rounded to 6 places, within half a unit of the 6th place -/
theorem number_cited (q : Number.Q) (hd : 0 < q.den) :
    2 * (Number.round6 q * q.den - q.num * 1000000) ≤ q.den ∧ 2 * (q.num * 1000000 - Number.round6 q * q.den) ≤ q.den :=
  C17.round6_close q hd

/-- cited (C17): a shortened hash colour is the same colour -/
theorem hash_cited (minimize : Bool) (v : Text) : Color.hexColor (Color.shortenHash minimize v) = Color.hexColor v :=
  C17.hash_shorten minimize v

/-- cited (C12): strings and URLs survive quoting -/
theorem string_cited (v : Urls.Url) (h : Urls.Safe v) : Urls.stringValue (Urls.cssString v) = v := C12.string_survives v h
theorem url_cited (u : Urls.Url) (h : Urls.Safe u) : Urls.uriValue (Urls.cssUri true u) = u := C12.url_survives u h

/-- cited (C15): a namespace pair written with the sheet's prefixes resolves to the same pair -/
theorem namespace_cited (s : Sheet.Sheet) (attr : Bool) (ns : Sheet.NsV) (h : Sheet.Expressible (Sheet.view s) attr ns) :
    Sheet.resolveForm (Sheet.view s) attr (Sheet.serForm (Sheet.view s) ns) = some ns := C15.reparse_keeps_pair s attr ns h

/-- cited (C07): a valid rule sequence re-parses to itself -/
theorem rule_order_cited (s : Sheet.Sheet) (hv : Sheet.Valid s) (hp : Sheet.plain s) : Sheet.parseSheet true s = s :=
  C07.reparse_same_partial s hv hp

/-- non-vacuity: `a, f(1px rgb(1, 2, 3))/calc(1px + 2% * 3)` is written as 28 tokens and reads back -/
example : wfValue [(.none, .atom .ident),
      (.comma, .fn (.cons false (.atom .dim) (.cons false (.colorFn false [(false, .num), (true, .num), (true, .num)]) .nil))),
      (.slash, .calc .dim [(.plus, .pct), (.star, .num)])] = true ∧
    serValue {} [(.none, .atom .ident),
      (.comma, .fn (.cons false (.atom .dim) (.cons false (.colorFn false [(false, .num), (true, .num), (true, .num)]) .nil))),
      (.slash, .calc .dim [(.plus, .pct), (.star, .num)])] =
    [.ident, .comma, .ws, .func, .dim, .ws, .colorFunc false, .num, .comma, .ws, .num, .comma, .ws, .num, .rparen, .rparen,
     .slash, .calcFunc, .dim, .ws, .plus, .ws, .pct, .ws, .star, .ws, .num, .rparen] := ⟨rfl, rfl⟩

end CssVerif.C03
