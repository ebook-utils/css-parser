/-
C09 — Token classification follows the CSS token grammar.

Full statement (`classify`): for every list of lexemes generated by the token grammar and joined so that
adjacent lexemes cannot merge,

    (tokenize Gen.tables ⟨false, true⟩ (ls.flatMap render)).toks.map (typ, val) = ls.map expected

It is proved at the end of this file as `classify_sequence` for the lexeme classes listed below — all
escape-free ones, and IDENT, HASH and DIMENSION with hex escapes — (`Lexeme`, `Lexeme.render`,
`Lexeme.expected`, `Lexeme.wf`), with the adjacency relation `canFollow`
(`chain canFollow ls`), one non-local side condition (`ratioFree`: RATIO looks through white space) and
one condition on the start of the text (`startsWithBom`); every hypothesis has a kernel-checked
counterexample next to the theorem.  `classify_sequence_raws` adds the raw texts and the way the loop
ends; `classify_loop` is the same statement for the main loop started in any state; `step_lexeme` is the
per-lexeme statement for all classes at once.

Per lexeme ("first token": a lexeme of ANY length, in ANY tokenizer state outside full-sheet mode and with
comments kept (`cfg.doComments = true`),
followed by ANY continuation text that satisfies the stated "cannot merge" side condition, makes `step`
return exactly one token with that type, that value and that raw text):

  * S            whitespace runs                                            `classify_ws`
  * CHAR         the fast-path characters `,:;{}>[]` and the solo delimiters  `classify_fast`, `classify_solo`,
                                                                            `gen_solo_delims`
  * CHAR         the delimiters `/ * ~ | ^ $ + . - < # @` that an earlier production can start with, when the
                 next character rules that production out                  `classify_cdelim`, `classify_char_ctx`
  * INCLUDES, DASHMATCH, PREFIXMATCH, SUFFIXMATCH, SUBSTRINGMATCH, CDO, CDC
                 fixed spellings, any continuation                          `classify_includes` … `classify_cdo`
                                                                            (instances of `classify_lit`),
                                                                            `classify_cdc`
  * NUMBER       `[+-]?[0-9]+` and `[+-]?[0-9]*\.[0-9]+`                     `classify_number`, `classify_number_signed`
  * PERCENTAGE   number `%`, any continuation                               `classify_percentage(_signed)`
  * DIMENSION    number + escape-free unit `-?{nmstart}{nmchar}*`            `classify_dimension(_signed)`
  * IDENT        escape-free `-?{nmstart}{nmchar}*` (ASCII and non-ASCII)    `classify_ident`
  * FUNCTION     escape-free identifier `(`, except `url(` and `and(`        `classify_function`
  * HASH         `#` + escape-free name characters                          `classify_hash`
  * ATKEYWORD and the keyword symbols (IMPORT_SYM, MEDIA_SYM, …)
                 `@` + escape-free identifier, except `@charset␠`           `classify_atkeyword`
  * COMMENT      `/*` body-without-`*/` `*/`, any continuation               `classify_comment(_plain)`
  * STRING       quote, body without newline/backslash/that quote, quote    `classify_string`
  * IDENT, HASH, DIMENSION with HEX ESCAPES: a name some of whose characters are written `\` + 1–6 hex
                 digits + optional white space is ONE token whose VALUE is the name with every escape
                 replaced by its character                                  `classify_ident_esc`, `classify_hash_esc`,
                                                                            `classify_dimension_esc(_signed)`
                 (side conditions: an escape has as many digits as there are hex digits, up to six; its
                 terminator is there whenever white space would otherwise follow; `\r` as terminator is not
                 followed by `\n`; an IDENT starts with `-` or a plain character other than `u`/`U`).
                 The value part rests on `unicodeSub_eq_cssUnescape` (Proofs/UnicodeSub.lean): the model's
                 `re.sub(unicodesub, _repl, ·)` equals the specification `Escape.cssUnescape` on EVERY text,
                 and on `cssUnescape_units` (Proofs/EscName.lean).

plus one universal statement for all lexemes (`first_char_sound`: off the single-character fast path, whatever
token is produced comes from a production that can start with the first character).

All per-lexeme proofs off the fast path (`classify_fast` just unfolds `step`) have one shape, `step_lex`
(Proofs/ClassifyLex.lean): the productions before the lexeme's own are passed over on this text, its own
longest match ends where the lexeme ends, and `finish` (`finish_plain`, `finish_esc`, `finish_escfree`,
`finish_string`, `finish_at`) makes the token of the match.

Every theorem about a production rests on an *obligation on the regenerated table* (`gen_S_first`,
`gen_number_layout`, `gen_ident_layout`, `gen_hash_at`, `gen_cdc_layout`, `gen_signed_layout`,
`gen_comment`, `gen_string`, `gen_char_last`, `gen_delim_layout`, …; the position of DIMENSION with the
escape named is checked inside `dimension_esc_core`): it states the shape and position of the productions
involved and is re-checked by `rfl`/`decide` whenever `Gen/Productions.lean` is regenerated.  The side conditions of the theorems are exact enough to have kernel-checked
counterexamples next to them (`1/2)` is a RATIO, `1.5`, `1e3`, `u+1` is a UNICODE-RANGE, `and(` stays an
IDENT, `url()` is a URI, `@charset␠` is CHARSET_SYM, the value of a COMMENT goes through the `\hex`
rewrite).

What the composition does NOT cover (stated so that nobody reads more into `classify_sequence`):
  * an unsigned integer followed (after optional white space) by `/` — a `/` delimiter or a comment —
    unless it comes right after `(`: `ratioFree` is the sufficient condition of `classify_number`, which
    is stronger than "RATIO does not match" (`1/**/` and `1/x` are excluded; not checked here);
  * the conditions for the delimiters `+ - < @` (`ctxStop`) and "number directly followed by the
    delimiter `-` or `.`" (`canFollow`) are one-character conditions, slightly stronger than necessary;
  * the backslash as a delimiter.

NOT proved here (for these lexeme classes harness/props/c09.py has only its derivation oracle and the
correspondence test; this is the list): FUNCTION and at-keywords *with escapes*, names with *literal* escapes
(`\:`), identifiers that *start* with an escape or with `u`/`U` and contain escapes, `\r\n` as escape
terminator; strings with escapes or line continuations and INVALID (unterminated strings); URI; UNICODE-RANGE; RATIO
as a lexeme; full-sheet mode (`fullsheet = true`: the EOF completions).
-/
import CssVerif.Proofs.Classify
import CssVerif.Proofs.ClassifyMore
import CssVerif.Proofs.ClassifyLex
import CssVerif.Proofs.ClassifySeq
import CssVerif.Proofs.EscName
import CssVerif.Gen.Productions
import CssVerif.Props.C08
namespace CssVerif.C09
open CssVerif Re

theorem consumed_append_right (pre rest : Text) : consumed (pre ++ rest) rest = pre := by
  simp [consumed]

def isWs (c : Nat) : Bool := c = 9 || c = 10 || c = 12 || c = 13 || c = 32

/-- S is the first production and has the shape `{s}+` over exactly the five CSS whitespace characters -/
theorem gen_S_first : ∃ rs post,
    Gen.prods = { name := "S", notAfter := none, re := .seq (.cls false rs) (.star (.cls false rs)) } :: post ∧
    (∀ c, clsMatch false rs c = isWs c) :=
  ⟨[(9, 9), (13, 13), (10, 10), (12, 12), (32, 32)], Gen.prods.tail, rfl, (isTest_cls false _).agree test_ws⟩

theorem gen_S_not_escaped : Gen.tables.escTypes.contains "S" = false := by decide +kernel
theorem gen_CHAR_not_escaped : Gen.tables.escTypes.contains "CHAR" = false := by decide +kernel
/-- both value rewrites (`\hex` and `\newline`) only fire at a backslash -/
theorem gen_backslashOnly : backslashOnly Gen.tables = true := C08.gen_backslashOnly

/-! ### what `finish` does outside full-sheet mode, by kind of token type -/

theorem finish_plain (T : Tables) (cfg : Cfg) (hfs : cfg.fullsheet = false) (hdc : cfg.doComments = true)
    (st : St) (n : String) (found rem : Text)
    (h1 : T.escTypes.contains n = false) (h2 : (n == "ATKEYWORD") = false) :
    finish T cfg st n found rem =
      { emit := some ⟨n, found, st.line, st.col⟩, raw := found, st := advance st found } := by
  have h1' : ¬ n ∈ T.escTypes := by simpa using h1
  have h2' : n ≠ "ATKEYWORD" := by simpa using h2
  simp [finish, finishName, finishVal, hfs, hdc, h1', h2']

theorem finish_esc (T : Tables) (cfg : Cfg) (hfs : cfg.fullsheet = false) (hdc : cfg.doComments = true)
    (st : St) (n : String) (found rem : Text) (h1 : T.escTypes.contains n = true)
    (h2 : (n == "STRING" || n == "INVALID") = false) :
    finish T cfg st n found rem =
      { emit := some ⟨n, unicodeSub T found, st.line, st.col⟩, raw := found, st := advance st found } := by
  have h1' : n ∈ T.escTypes := by simpa using h1
  have h2' : n ≠ "STRING" ∧ n ≠ "INVALID" := by simpa using h2
  simp [finish, finishName, finishVal, hfs, hdc, h1', h2'.1, h2'.2]

theorem finish_escfree (T : Tables) (hb : backslashOnly T = true) (cfg : Cfg) (hfs : cfg.fullsheet = false)
    (hdc : cfg.doComments = true) (st : St) (n : String) (found rem : Text)
    (h1 : T.escTypes.contains n = true) (h2 : (n == "STRING" || n == "INVALID") = false) (hnb : NoBs found) :
    finish T cfg st n found rem =
      { emit := some ⟨n, found, st.line, st.col⟩, raw := found, st := advance st found } := by
  rw [finish_esc T cfg hfs hdc st n found rem h1 h2, unicodeSub_id T hb found hnb]

theorem finish_string {T : Tables} (hb : backslashOnly T = true) {cfg : Cfg} (hfs : cfg.fullsheet = false)
    (hdc : cfg.doComments = true) (st : St) {found : Text} (rem : Text)
    (h1 : T.escTypes.contains "STRING" = true) (hnb : NoBs found) :
    finish T cfg st "STRING" found rem =
      { emit := some ⟨"STRING", found, st.line, st.col⟩, raw := found, st := advance st found } := by
  have h1' : "STRING" ∈ T.escTypes := by simpa using h1
  simp [finish, finishName, finishVal, hfs, hdc, h1', unicodeSub_id T hb found hnb, cleanString_id T hb found hnb]

/-- a maximal run of whitespace is one S token whose value is the run, whatever follows -/
theorem classify_ws (cfg : Cfg) (hfs : cfg.fullsheet = false) (hdc : cfg.doComments = true) (st : St)
    (c : Nat) (run rest : Text) (hc : isWs c = true) (hrun : ∀ x ∈ run, isWs x = true)
    (hrest : ∀ d ∈ rest.head?, isWs d = false) (hr : st.rest = c :: run ++ rest) :
    step Gen.tables cfg st =
      some { emit := some ⟨"S", c :: run, st.line, st.col⟩, raw := c :: run,
             st := advance st (c :: run) } := by
  obtain ⟨rs, post, hS, hcls⟩ := gen_S_first
  have hfast : Gen.tables.fastChars.contains c = false :=
    not_contains_of_all (P := isWs) (by decide +kernel) hc
  have ht : IsTest (.cls false rs) isWs := (isTest_cls false rs).congr hcls
  rw [step_lex hfs (c :: run) rest hr rfl hfast [] _ hS nofun rfl
      (head_backoffs (ht.plus_run c run rest hc hrun hrest)) (Or.inl rfl),
    finish_plain Gen.tables cfg hfs hdc st "S" _ _ gen_S_not_escaped (by decide +kernel)]

/-! non-vacuity: the hypotheses are met by concrete states -/
example : step Gen.tables ⟨false, true⟩ ⟨none, [32, 10, 97], 1, 1⟩ =
    some { emit := some ⟨"S", [32, 10], 1, 1⟩, raw := [32, 10], st := advance ⟨none, [32, 10, 97], 1, 1⟩ [32, 10] } :=
  classify_ws ⟨false, true⟩ rfl rfl _ 32 [10] [97] (by decide +kernel) (by decide +kernel) (by decide +kernel) rfl

theorem classify_fast (cfg : Cfg) (st : St) (c : Nat) (s : Text) (hr : st.rest = c :: s)
    (hc : Gen.tables.fastChars.contains c = true) :
    step Gen.tables cfg st =
      some { emit := some ⟨"CHAR", [c], st.line, st.col⟩, raw := [c],
             st := { prev := some c, rest := s, line := st.line, col := st.col + 1 } } := by
  have hc' : c ∈ Gen.tables.fastChars := by simpa using hc
  unfold step
  rw [hr]
  simp [hc']

/-- a character is *solo* when no production before CHAR can start with it and CHAR accepts it -/
def solo (T : Tables) (c : Nat) : Bool :=
  !T.fastChars.contains c && earlierCannotStart T "CHAR" c &&
    (match findProd T.prods "CHAR" with
     | some p => p.notAfter.isNone && (match p.re with | .cls neg rs => clsMatch neg rs c | _ => false)
     | none => false)

/-- every solo character is a CHAR token of its own, whatever follows -/
theorem classify_solo (T : Tables) (hesc : T.escTypes.contains "CHAR" = false)
    (cfg : Cfg) (hfs : cfg.fullsheet = false) (hdc : cfg.doComments = true)
    (st : St) (c : Nat) (s : Text) (hr : st.rest = c :: s) (hc : solo T c = true) :
    step T cfg st =
      some { emit := some ⟨"CHAR", [c], st.line, st.col⟩, raw := [c], st := advance st [c] } := by
  simp only [solo, Bool.and_eq_true, Bool.not_eq_true'] at hc
  obtain ⟨⟨hfast, he⟩, hp⟩ := hc
  split at hp
  · rename_i p hfind
    simp only [Bool.and_eq_true, Option.isNone_iff_eq_none] at hp
    obtain ⟨hna, hre⟩ := hp
    split at hre
    · rename_i neg rs hpre
      have hname : p.name = "CHAR" := by simpa using List.find?_some hfind
      have hm : (ms p.re (c :: s)).head? = some s := by rw [hpre]; simp [ms, hre]
      rw [step_lex_named hfs [c] s hr rfl hfast "CHAR" (by decide +kernel) he hfind hna hm, hname,
        finish_plain T cfg hfs hdc st "CHAR" _ _ hesc (by decide +kernel)]
    · cases hre
  · cases hp

/-- the solo delimiters of today's table: `( ) = & ? % !` backtick, DEL and every C0 control that is
not whitespace (decided by the kernel on the regenerated table) -/
theorem gen_solo_delims :
    ∀ c ∈ [40, 41, 61, 38, 63, 37, 33, 96, 0, 1, 2, 3, 4, 5, 6, 7, 8, 11, 14, 15, 16, 17, 18, 19, 20, 21, 22,
      23, 24, 25, 26, 27, 28, 29, 30, 31, 127], solo Gen.tables c = true := by
  decide +kernel

/-- a token with the fixed spelling `a :: l`: its first character is off the fast path, its type is a plain
one, nothing earlier can start with `a`, and its own production is the literal (six closed facts about the
table, taken as one so that they are evaluated together) -/
theorem classify_lit (n : String) (a : Nat) (l : Text)
    (h : Gen.tables.fastChars.contains a = false ∧ (n == "IDENT") = false ∧ (n == "ATKEYWORD") = false ∧
      Gen.tables.escTypes.contains n = false ∧ earlierCannotStart Gen.tables n a = true ∧
      findProd Gen.prods n = some ⟨n, none, litRe a l⟩)
    {cfg : Cfg} (hfs : cfg.fullsheet = false) (hdc : cfg.doComments = true) {st : St} {s : Text}
    (hr : st.rest = a :: l ++ s) :
    step Gen.tables cfg st =
      some { emit := some ⟨n, a :: l, st.line, st.col⟩, raw := a :: l, st := advance st (a :: l) } := by
  obtain ⟨hfast, hn1, hn2, hesc, he, hp⟩ := h
  rw [step_lex_named hfs (a :: l) s hr rfl hfast n hn1 he hp rfl
      (congrArg List.head? (ms_litRe s l a)),
    finish_plain Gen.tables cfg hfs hdc st n _ _ hesc hn2]

theorem classify_op (n : String) (a : Nat) (cfg : Cfg) (hfs : cfg.fullsheet = false)
    (hdc : cfg.doComments = true) (st : St) (s : Text) (hr : st.rest = a :: 61 :: s)
    (hfast : Gen.tables.fastChars.contains a = false)
    (hn1 : (n == "IDENT") = false) (hn2 : (n == "ATKEYWORD") = false)
    (hesc : Gen.tables.escTypes.contains n = false)
    (he : earlierCannotStart Gen.tables n a = true)
    (hp : findProd Gen.prods n = some { name := n, notAfter := none, re := .seq (.cls false [(a, a)]) (.cls false [(61, 61)]) }) :
    step Gen.tables cfg st =
      some { emit := some ⟨n, [a, 61], st.line, st.col⟩, raw := [a, 61], st := advance st [a, 61] } :=
  classify_lit n a [61] ⟨hfast, hn1, hn2, hesc, he, hp⟩ hfs hdc hr

section
variable (cfg : Cfg) (hfs : cfg.fullsheet = false) (hdc : cfg.doComments = true) (st : St) (s : Text)
include hfs hdc

theorem classify_includes (hr : st.rest = 126 :: 61 :: s) :
    step Gen.tables cfg st = some { emit := some ⟨"INCLUDES", [126, 61], st.line, st.col⟩, raw := [126, 61], st := advance st [126, 61] } :=
  classify_lit "INCLUDES" 126 [61] (by decide +kernel) hfs hdc hr

theorem classify_dashmatch (hr : st.rest = 124 :: 61 :: s) :
    step Gen.tables cfg st = some { emit := some ⟨"DASHMATCH", [124, 61], st.line, st.col⟩, raw := [124, 61], st := advance st [124, 61] } :=
  classify_lit "DASHMATCH" 124 [61] (by decide +kernel) hfs hdc hr

theorem classify_prefixmatch (hr : st.rest = 94 :: 61 :: s) :
    step Gen.tables cfg st = some { emit := some ⟨"PREFIXMATCH", [94, 61], st.line, st.col⟩, raw := [94, 61], st := advance st [94, 61] } :=
  classify_lit "PREFIXMATCH" 94 [61] (by decide +kernel) hfs hdc hr

theorem classify_suffixmatch (hr : st.rest = 36 :: 61 :: s) :
    step Gen.tables cfg st = some { emit := some ⟨"SUFFIXMATCH", [36, 61], st.line, st.col⟩, raw := [36, 61], st := advance st [36, 61] } :=
  classify_lit "SUFFIXMATCH" 36 [61] (by decide +kernel) hfs hdc hr

theorem classify_substringmatch (hr : st.rest = 42 :: 61 :: s) :
    step Gen.tables cfg st = some { emit := some ⟨"SUBSTRINGMATCH", [42, 61], st.line, st.col⟩, raw := [42, 61], st := advance st [42, 61] } :=
  classify_lit "SUBSTRINGMATCH" 42 [61] (by decide +kernel) hfs hdc hr

end

/-- **CDO.** `<!--` is one CDO token, whatever follows (the production is the four-character literal and
nothing earlier can start with `<`: both re-checked on the regenerated table). -/
theorem classify_cdo (cfg : Cfg) (hfs : cfg.fullsheet = false) (hdc : cfg.doComments = true) (st : St)
    (rest : Text) (hr : st.rest = 60 :: 33 :: 45 :: 45 :: rest) :
    step Gen.tables cfg st =
      some { emit := some ⟨"CDO", [60, 33, 45, 45], st.line, st.col⟩, raw := [60, 33, 45, 45],
             st := advance st [60, 33, 45, 45] } :=
  classify_lit "CDO" 60 [33, 45, 45] (by decide +kernel) hfs hdc hr

/-! ## numbers, percentages, dimensions (lexemes of any length) -/

/-- obligation on the regenerated table: the first nine productions are two that cannot start with a
digit or a dot, RATIO `(?<!\()\s*[0-9]+\s*/…`, three more that cannot start with a digit or a dot, then
DIMENSION = number ident, PERCENTAGE = number `%`, NUMBER = `[+-]?[0-9]*\.[0-9]+|[+-]?[0-9]+` -/
theorem gen_number_layout : ∃ kR X,
    Gen.prods = (Gen.prods.take 2 ++ ⟨"RATIO", some 40, ratioRe kR⟩ :: (Gen.prods.drop 3).take 3) ++
      ⟨"DIMENSION", none, .seq numRe (identRe X)⟩ :: ⟨"PERCENTAGE", none, .seq numRe pctR⟩ ::
      ⟨"NUMBER", none, numRe⟩ :: Gen.prods.drop 9 ∧
    (∀ c ∈ numStarts, (Gen.prods.take 2 ++ (Gen.prods.drop 3).take 3).all (fun q => !canStart q.re c) = true) :=
  ⟨_, _, rfl, by decide +kernel⟩

theorem gen_numStarts_not_fast : ∀ c ∈ numStarts, Gen.tables.fastChars.contains c = false := by decide +kernel
theorem gen_num_escaped : Gen.tables.escTypes.contains "NUMBER" = false ∧
    Gen.tables.escTypes.contains "PERCENTAGE" = false ∧ Gen.tables.escTypes.contains "DIMENSION" = true := by decide +kernel


theorem all_cannot_start (pre : List Prod) (c : Nat) (h : pre.all (fun q => !canStart q.re c) = true)
    (prev : Option Nat) (s : Text) : ∀ q ∈ pre, matchProd q prev (c :: s) = none := by
  intro q hq
  have := List.all_eq_true.mp h q hq
  exact matchProd_none_of_canStart q prev c s (by simpa using this)

theorem numeric_prefix_none (kR : Re) (c : Nat) (s : Text) (prev : Option Nat)
    (hall : (Gen.prods.take 2 ++ (Gen.prods.drop 3).take 3).all (fun q => !canStart q.re c) = true)
    (hratio : NoRatio prev (c :: s)) :
    ∀ q ∈ Gen.prods.take 2 ++ ⟨"RATIO", some 40, ratioRe kR⟩ :: (Gen.prods.drop 3).take 3,
      matchProd q prev (c :: s) = none := by
  have hcs := all_cannot_start _ c hall prev s
  refine List.forall_mem_append.2 ⟨fun q h => hcs q (List.mem_append_left _ h),
    List.forall_mem_cons.2 ⟨?_, fun q h => hcs q (List.mem_append_right _ h)⟩⟩
  rcases hratio with hp | hk
  · simp [matchProd, hp]
  · exact matchProd_none_of_ms_nil _ _ _ (hk kR)

theorem unsigned_prefix (c : Nat) (s : Text) (prev : Option Nat) (hc : c ∈ numStarts)
    (hratio : NoRatio prev (c :: s)) :
    ∀ kR, ∀ q ∈ Gen.prods.take 2 ++ ⟨"RATIO", some 40, ratioRe kR⟩ :: (Gen.prods.drop 3).take 3,
      matchProd q prev (c :: s) = none := by
  obtain ⟨_, _, _, hall⟩ := gen_number_layout
  exact fun kR => numeric_prefix_none kR c s prev (hall c hc) hratio

/-- `[0-9]+` or `[0-9]*\.[0-9]+`, decidably -/
def isNumLex (t : Text) : Bool :=
  match t.dropWhile isDigit with
  | [] => !t.isEmpty
  | 46 :: f :: fs => isDigit f && fs.all isDigit
  | _ => false

theorem mem_takeWhile_true {α} (p : α → Bool) : ∀ (l : List α) (x : α), x ∈ l.takeWhile p → p x = true :=
  fun _ x hx => List.all_eq_true.mp List.all_takeWhile x hx

theorem isNumLex_spec {t : Text} (h : isNumLex t = true) : NumLex t := by
  have ht := List.takeWhile_append_dropWhile (p := isDigit) (l := t)
  have hip : ∀ x ∈ t.takeWhile isDigit, isDigit x = true := mem_takeWhile_true isDigit t
  unfold isNumLex at h
  split at h
  · rename_i heq
    rw [heq, List.append_nil] at ht
    rw [ht] at hip
    cases t with
    | nil => simp at h
    | cons c run =>
      exact .int c run (hip c List.mem_cons_self) (fun x hx => hip x (List.mem_cons_of_mem _ hx))
  · rename_i f fs heq
    rw [heq] at ht
    rw [← ht]
    simp only [Bool.and_eq_true, List.all_eq_true] at h
    exact .dec _ f fs hip h.1 h.2
  · cases h

/-- the text after a number cannot continue it: it does not start with a digit, with `%` (PERCENTAGE)
or like an identifier — `-`? then a name-start character (ASCII letter, `_`, non-ASCII; this includes the
`e`/`E` of an exponent, which this tokenizer reads as a unit) or a backslash (DIMENSION) -/
def numStop (rest : Text) : Bool :=
  !identStart rest && (match rest with | d :: _ => !isDigit d && d != 37 | [] => true)

/-- after optional whitespace the text does not continue with `/` -/
def noSlash (rest : Text) : Bool := (rest.dropWhile isWs).head? != some 47

theorem numStop_spec {rest : Text} (h : numStop rest = true) :
    identStart rest = false ∧ (∀ d ∈ rest.head?, isDigit d = false) ∧ (∀ d ∈ rest.head?, (d == 37) = false) := by
  simp only [numStop, Bool.and_eq_true, Bool.not_eq_true'] at h
  refine ⟨h.1, forall_head fun x r hr => ?_, forall_head fun x r hr => ?_⟩ <;>
  · subst hr
    have := h.2
    simp only [Bool.and_eq_true, Bool.not_eq_true', bne_iff_ne, ne_eq] at this
    simp [this.1, this.2]

theorem noSlash_spec {rest : Text} (h : noSlash rest = true) :
    ∀ d ∈ (rest.dropWhile isWsC).head?, (d == 47) = false := by
  intro d hd
  have heq : isWs = isWsC := rfl
  have : (rest.dropWhile isWs).head? = some d := by rw [heq]; simpa using hd
  simp only [noSlash, this, bne_iff_ne, ne_eq, Option.some.injEq] at h
  simpa using h

section
variable (cfg : Cfg) (hfs : cfg.fullsheet = false) (hdc : cfg.doComments = true) (st : St)
include hfs hdc

theorem number_core (lex rest : Text) (c : Nat) (s : Text) (hcs : lex ++ rest = c :: s)
    (hfast : Gen.tables.fastChars.contains c = false) (hr : st.rest = lex ++ rest)
    (hres : NumRes (ms numRe (lex ++ rest)) rest)
    (hpre : ∀ kR, ∀ q ∈ Gen.prods.take 2 ++ ⟨"RATIO", some 40, ratioRe kR⟩ :: (Gen.prods.drop 3).take 3,
      matchProd q st.prev (c :: s) = none) (hid : identStart rest = false)
    (hpct : ∀ d ∈ rest.head?, (d == 37) = false) :
    step Gen.tables cfg st =
      some { emit := some ⟨"NUMBER", lex, st.line, st.col⟩, raw := lex, st := advance st lex } := by
  obtain ⟨kR, X, hlay, -⟩ := gen_number_layout
  have hdim := num_then_nil _ rest hres (identRe X) (ident_nil X rest hid)
    (fun x post hx => ident_nil X _ (identStart_digit_dot x post hx))
  have hpc := num_then_nil _ rest hres pctR ((isTest_char 37).stop rest hpct)
    (fun x post hx => (isTest_char 37).neg (by
      simp only [isDigit, Bool.and_eq_true, decide_eq_true_eq] at hx
      simp; omega) post)
  refine (step_lex_none hfs lex rest hr hcs hfast (_ ++ [_, _]) ⟨"NUMBER", none, numRe⟩
    (by rw [List.append_assoc]; exact hlay) ?_ rfl hres.1 (Or.inl rfl)).trans ?_
  · exact List.forall_mem_append.2 ⟨hcs ▸ hpre kR, List.forall_mem_cons.2 ⟨matchProd_none_of_ms_nil _ _ _ hdim,
      List.forall_mem_singleton.2 (matchProd_none_of_ms_nil _ _ _ hpc)⟩⟩
  · rw [finish_plain Gen.tables cfg hfs hdc st "NUMBER" _ _ gen_num_escaped.1 (by decide +kernel)]

theorem percentage_core (num rest : Text) (c : Nat) (s : Text) (hcs : num ++ 37 :: rest = c :: s)
    (hfast : Gen.tables.fastChars.contains c = false) (hr : st.rest = num ++ 37 :: rest)
    (hres : NumRes (ms numRe (num ++ 37 :: rest)) (37 :: rest))
    (hpre : ∀ kR, ∀ q ∈ Gen.prods.take 2 ++ ⟨"RATIO", some 40, ratioRe kR⟩ :: (Gen.prods.drop 3).take 3,
      matchProd q st.prev (c :: s) = none) :
    step Gen.tables cfg st =
      some { emit := some ⟨"PERCENTAGE", num ++ [37], st.line, st.col⟩, raw := num ++ [37],
             st := advance st (num ++ [37]) } := by
  obtain ⟨kR, X, hlay, -⟩ := gen_number_layout
  have hdim := num_then_nil _ _ hres (identRe X) (ident_nil X _ (by simp [identStart, nameStart, isNmStart]))
    (fun x post hx => ident_nil X _ (identStart_digit_dot x post hx))
  have hm := num_then_head _ _ rest hres pctR (congrArg List.head? ((isTest_char 37).pos rfl rest))
  have happ : num ++ 37 :: rest = (num ++ [37]) ++ rest := by simp
  rw [happ] at hr hcs hdim hm
  refine (step_lex_none hfs (num ++ [37]) rest hr hcs hfast (_ ++ [_])
    ⟨"PERCENTAGE", none, .seq numRe pctR⟩ (by rw [List.append_assoc]; exact hlay) ?_ rfl hm (Or.inl rfl)).trans ?_
  · exact List.forall_mem_append.2 ⟨hcs ▸ hpre kR, List.forall_mem_singleton.2 (matchProd_none_of_ms_nil _ _ _ hdim)⟩
  · rw [finish_plain Gen.tables cfg hfs hdc st "PERCENTAGE" _ _ gen_num_escaped.2.1 (by decide +kernel)]

theorem dimension_core (num : Text) (m : Bool) (u : Nat) (us rest : Text) (c : Nat) (s : Text)
    (hnb : NoBs num) (hu : isNmStart u = true) (hus : ∀ x ∈ us, isNmChar x = true) (hrest : NameStop rest)
    (hcs : num ++ (identLex m u us ++ rest) = c :: s)
    (hfast : Gen.tables.fastChars.contains c = false) (hr : st.rest = num ++ (identLex m u us ++ rest))
    (hres : NumRes (ms numRe (num ++ (identLex m u us ++ rest))) (identLex m u us ++ rest))
    (hpre : ∀ kR, ∀ q ∈ Gen.prods.take 2 ++ ⟨"RATIO", some 40, ratioRe kR⟩ :: (Gen.prods.drop 3).take 3,
      matchProd q st.prev (c :: s) = none) :
    step Gen.tables cfg st =
      some { emit := some ⟨"DIMENSION", num ++ identLex m u us, st.line, st.col⟩,
             raw := num ++ identLex m u us, st := advance st (num ++ identLex m u us) } := by
  obtain ⟨kR, X, hlay, -⟩ := gen_number_layout
  have hm := num_then_head _ _ rest hres (identRe X) (head_backoffs (ms_ident X m u us rest hu hus hrest))
  rw [← List.append_assoc] at hr hcs hm
  rw [step_lex_none hfs (num ++ identLex m u us) rest hr hcs hfast _
      ⟨"DIMENSION", none, .seq numRe (identRe X)⟩ hlay (hcs ▸ hpre kR) rfl hm (Or.inl rfl),
    finish_escfree Gen.tables gen_backslashOnly cfg hfs hdc st "DIMENSION" _ _ gen_num_escaped.2.2
      (by decide +kernel) (NoBs_append hnb (identLex_nobs m u us hu hus))]

/-- **NUMBER.** An unsigned numeric lexeme `[0-9]+` or `[0-9]*\.[0-9]+` of any length, followed by any
text that cannot continue it (`numStop`), is one NUMBER token whose value is the lexeme.  After an
*integer* two more side conditions are needed, both read off the table: the text must not continue
with `.digit` (the decimal alternative of the number expression is tried first and would match
more), and RATIO `(?<!\()\s*[0-9]+\s*/\s*[0-9]+(?=\))`, which precedes NUMBER, must not apply — here:
the previous character is `(` or the text after optional whitespace does not continue with `/`. -/
theorem classify_number (num rest : Text) (hnum : NumLex num) (hstop : numStop rest = true)
    (hint : 46 ∈ num ∨ (dotDigit rest = false ∧ (st.prev = some 40 ∨ noSlash rest = true)))
    (hr : st.rest = num ++ rest) :
    step Gen.tables cfg st =
      some { emit := some ⟨"NUMBER", num, st.line, st.col⟩, raw := num, st := advance st num } := by
  obtain ⟨hid, hdig, hpct⟩ := numStop_spec hstop
  obtain ⟨c, s, hcs, hc⟩ := hnum.start rest
  refine number_core cfg hfs hdc st num rest c s hcs (gen_numStarts_not_fast c hc) hr
    (hnum.res rest hdig (hint.imp id And.left))
    (unsigned_prefix c s st.prev hc (hcs ▸ hnum.noRatio rest st.prev hdig ?_)) hid hpct
  rcases hint with h | ⟨_, h | h⟩
  · exact Or.inl h
  · exact Or.inr (Or.inl h)
  · exact Or.inr (Or.inr (noSlash_spec h))

/-- **PERCENTAGE.** A numeric lexeme followed by `%` is one PERCENTAGE token, whatever follows. -/
theorem classify_percentage (num rest : Text) (hnum : NumLex num) (hr : st.rest = num ++ 37 :: rest) :
    step Gen.tables cfg st =
      some { emit := some ⟨"PERCENTAGE", num ++ [37], st.line, st.col⟩, raw := num ++ [37],
             st := advance st (num ++ [37]) } := by
  obtain ⟨c, s, hcs, hc⟩ := hnum.start (37 :: rest)
  obtain ⟨hres, hratio⟩ := hnum.facts_of_head st.prev 37 rest (by decide) (by decide) (by decide) (by decide)
  exact percentage_core cfg hfs hdc st num rest c s hcs (gen_numStarts_not_fast c hc) hr hres
    (unsigned_prefix c s st.prev hc (hcs ▸ hratio))

/-- **DIMENSION.** A numeric lexeme followed by an escape-free unit `-?{nmstart}{nmchar}*` and then any
text that does not start with a name character or a backslash is one DIMENSION token. -/
theorem classify_dimension (num : Text) (m : Bool) (u : Nat) (us rest : Text) (hnum : NumLex num)
    (hu : isNmStart u = true) (hus : ∀ x ∈ us, isNmChar x = true) (hrest : NameStop rest)
    (hr : st.rest = num ++ (identLex m u us ++ rest)) :
    step Gen.tables cfg st =
      some { emit := some ⟨"DIMENSION", num ++ identLex m u us, st.line, st.col⟩,
             raw := num ++ identLex m u us, st := advance st (num ++ identLex m u us) } := by
  obtain ⟨c, s, hcs, hc⟩ := hnum.start (identLex m u us ++ rest)
  obtain ⟨x, post, hxp, h1, h2, h3, h4, _⟩ := identLex_head m u us rest hu
  have := hnum.facts_of_head st.prev x post h1 h2 h3 h4
  rw [← hxp] at this
  exact dimension_core cfg hfs hdc st num m u us rest c s hnum.nobs hu hus hrest hcs
    (gen_numStarts_not_fast c hc) hr this.1 (unsigned_prefix c s st.prev hc (hcs ▸ this.2))

end

/-- projection used in the examples: type and value of the token of one step -/
def tokOf (r : Option Res) : Option (String × Text) := r.bind (fun r => r.emit.map (fun t => (t.typ, t.val)))

/-! the side conditions of `classify_number` are needed (kernel-checked on the regenerated table) -/
/-- `1` followed by `/2)` is not a NUMBER: RATIO takes `1/2` -/
example : tokOf (step Gen.tables ⟨false, true⟩ ⟨none, [49, 47, 50, 41], 1, 1⟩) = some ("RATIO", [49, 47, 50]) := by decide +kernel
/-- … unless the previous character is `(` -/
example : tokOf (step Gen.tables ⟨false, true⟩ ⟨some 40, [49, 47, 50, 41], 1, 1⟩) = some ("NUMBER", [49]) := by decide +kernel
/-- `1` followed by `.5` is the NUMBER `1.5` -/
example : tokOf (step Gen.tables ⟨false, true⟩ ⟨none, [49, 46, 53], 1, 1⟩) = some ("NUMBER", [49, 46, 53]) := by decide +kernel
/-- `1` followed by `e3` is a DIMENSION (no exponents in this grammar), `1` followed by `-x` too -/
example : tokOf (step Gen.tables ⟨false, true⟩ ⟨none, [49, 101, 51], 1, 1⟩) = some ("DIMENSION", [49, 101, 51]) := by decide +kernel
example : tokOf (step Gen.tables ⟨false, true⟩ ⟨none, [49, 45, 120], 1, 1⟩) = some ("DIMENSION", [49, 45, 120]) := by decide +kernel

/-! non-vacuity: `12.5px;`, `12.5;`, `12 ;`, `.5%x`, `007` at the end of the text -/
example : step Gen.tables ⟨false, true⟩ ⟨none, [49, 50, 46, 53, 112, 120, 59], 1, 1⟩ =
    some { emit := some ⟨"DIMENSION", [49, 50, 46, 53, 112, 120], 1, 1⟩, raw := [49, 50, 46, 53, 112, 120],
           st := advance ⟨none, [49, 50, 46, 53, 112, 120, 59], 1, 1⟩ [49, 50, 46, 53, 112, 120] } :=
  classify_dimension ⟨false, true⟩ rfl rfl _ [49, 50, 46, 53] false 112 [120] [59]
    (isNumLex_spec (by decide +kernel)) (by decide +kernel) (by decide +kernel) (by decide +kernel) rfl
example : tokOf (step Gen.tables ⟨false, true⟩ ⟨none, [49, 50, 46, 53, 112, 120, 59], 1, 1⟩)
    = some ("DIMENSION", [49, 50, 46, 53, 112, 120]) := by decide +kernel
example : step Gen.tables ⟨false, true⟩ ⟨none, [49, 50, 46, 53, 59], 1, 1⟩ =
    some { emit := some ⟨"NUMBER", [49, 50, 46, 53], 1, 1⟩, raw := [49, 50, 46, 53],
           st := advance ⟨none, [49, 50, 46, 53, 59], 1, 1⟩ [49, 50, 46, 53] } :=
  classify_number ⟨false, true⟩ rfl rfl _ [49, 50, 46, 53] [59]
    (isNumLex_spec (by decide +kernel)) (by decide +kernel) (Or.inl (by decide +kernel)) rfl
example : step Gen.tables ⟨false, true⟩ ⟨none, [49, 50, 32, 59], 1, 1⟩ =
    some { emit := some ⟨"NUMBER", [49, 50], 1, 1⟩, raw := [49, 50],
           st := advance ⟨none, [49, 50, 32, 59], 1, 1⟩ [49, 50] } :=
  classify_number ⟨false, true⟩ rfl rfl _ [49, 50] [32, 59]
    (isNumLex_spec (by decide +kernel)) (by decide +kernel)
    (Or.inr ⟨by decide +kernel, Or.inr (by decide +kernel)⟩) rfl
example : step Gen.tables ⟨false, true⟩ ⟨some 58, [48, 48, 55], 3, 9⟩ =
    some { emit := some ⟨"NUMBER", [48, 48, 55], 3, 9⟩, raw := [48, 48, 55],
           st := advance ⟨some 58, [48, 48, 55], 3, 9⟩ [48, 48, 55] } :=
  classify_number ⟨false, true⟩ rfl rfl _ [48, 48, 55] []
    (isNumLex_spec (by decide +kernel)) (by decide +kernel)
    (Or.inr ⟨by decide +kernel, Or.inr (by decide +kernel)⟩) rfl
example : step Gen.tables ⟨false, true⟩ ⟨none, [46, 53, 37, 120], 1, 1⟩ =
    some { emit := some ⟨"PERCENTAGE", [46, 53, 37], 1, 1⟩, raw := [46, 53, 37],
           st := advance ⟨none, [46, 53, 37, 120], 1, 1⟩ [46, 53, 37] } :=
  classify_percentage ⟨false, true⟩ rfl rfl _ [46, 53] [120]
    (isNumLex_spec (by decide +kernel)) rfl

/-! ## escape-free names: IDENT, FUNCTION, HASH, ATKEYWORD (lexemes of any length) -/

/-- obligation on the regenerated table: the first seven productions, with the escape inside
`{nmstart}`/`{nmchar}` named (`escX`, Proofs/EscName.lean); `gen_ident_layout` and `gen_esc_layout` are read
off it, so that each letter check (a sweep over 128 characters) is made once for both -/
theorem gen_names_layout : ∃ a b c kU kR a' kUR,
    Gen.prods = ⟨"S", none, sRe⟩ :: ⟨"URI", none, .seq a (.seq b (.seq c (.seq lparR kU)))⟩ ::
      ⟨"RATIO", some 40, ratioRe kR⟩ :: ⟨"UNICODE-RANGE", none, .seq a' (.seq plusR kUR)⟩ ::
      ⟨"IDENT", none, identRe escX⟩ :: ⟨"FUNCTION", none, funcRe escX⟩ ::
      ⟨"DIMENSION", none, .seq numRe (identRe escX)⟩ :: Gen.prods.drop 7 ∧
    letterOK a 85 117 = true ∧ letterOK b 82 114 = true ∧ letterOK c 76 108 = true ∧
    letterOK a' 85 117 = true :=
  ⟨_, _, _, _, _, _, _, rfl, by decide +kernel⟩

/-- obligation on the regenerated table: the first six productions are S `{s}+`, URI `U R L \( …`
(each letter an alternation of the two cases and backslash escapes), RATIO, UNICODE-RANGE `U \+ …`,
IDENT `-?{nmstart}{nmchar}*` and FUNCTION `-?{nmstart}{nmchar}*\(` -/
theorem gen_ident_layout : ∃ a b c kU kR a' kUR X,
    Gen.prods = ⟨"S", none, sRe⟩ :: ⟨"URI", none, .seq a (.seq b (.seq c (.seq lparR kU)))⟩ ::
      ⟨"RATIO", some 40, ratioRe kR⟩ :: ⟨"UNICODE-RANGE", none, .seq a' (.seq plusR kUR)⟩ ::
      ⟨"IDENT", none, identRe X⟩ :: ⟨"FUNCTION", none, funcRe X⟩ :: Gen.prods.drop 6 ∧
    letterOK a 85 117 = true ∧ letterOK b 82 114 = true ∧ letterOK c 76 108 = true ∧
    letterOK a' 85 117 = true := by
  obtain ⟨a, b, c, kU, kR, a', kUR, hlay, h⟩ := gen_names_layout
  have h6 : Gen.prods.drop 6 = ⟨"DIMENSION", none, .seq numRe (identRe escX)⟩ :: Gen.prods.drop 7 := rfl
  exact ⟨a, b, c, kU, kR, a', kUR, escX, by rw [h6]; exact hlay, h⟩

theorem gen_fast_not_name : Gen.tables.fastChars.all (fun f => !isNmChar f) = true := by decide +kernel
theorem gen_name_escaped : Gen.tables.escTypes.contains "IDENT" = true ∧
    Gen.tables.escTypes.contains "FUNCTION" = true ∧ Gen.tables.escTypes.contains "HASH" = true ∧
    Gen.tables.escTypes.contains "ATKEYWORD" = false := by decide +kernel

theorem not_fast_of_nmchar {x : Nat} (h : isNmChar x = true) : Gen.tables.fastChars.contains x = false :=
  not_contains_of_all gen_fast_not_name h

theorem identLex_off_fast (m : Bool) (u : Nat) (us rest : Text) (hu : isNmStart u = true) :
    ∃ x post, identLex m u us ++ rest = x :: post ∧ Gen.tables.fastChars.contains x = false := by
  cases m with
  | true => exact ⟨45, _, rfl, by decide +kernel⟩
  | false => exact ⟨u, _, rfl, not_fast_of_nmchar (by simp [isNmChar, hu])⟩

/-- S, URI, RATIO and UNICODE-RANGE do not match an escape-free identifier followed by a non-name
character, except `url(` and `u+` -/
theorem name_prefix_none (a b c kU kR a' kUR : Re) (ha : letterOK a 85 117 = true)
    (hb : letterOK b 82 114 = true) (hc : letterOK c 76 108 = true) (ha' : letterOK a' 85 117 = true)
    (prev : Option Nat) (m : Bool) (u : Nat) (us rest : Text) (hu : isNmStart u = true)
    (hus : ∀ x ∈ us, isNmChar x = true) (hrest : NameStop rest)
    (hurl : lowerT (identLex m u us) = [117, 114, 108] → ∀ d ∈ rest.head?, (d == 40) = false)
    (hplus : lowerT (identLex m u us) = [117] → ∀ d ∈ rest.head?, (d == 43) = false) :
    ∀ q ∈ [(⟨"S", none, sRe⟩ : Prod), ⟨"URI", none, .seq a (.seq b (.seq c (.seq lparR kU)))⟩,
        ⟨"RATIO", some 40, ratioRe kR⟩, ⟨"UNICODE-RANGE", none, .seq a' (.seq plusR kUR)⟩],
      matchProd q prev (identLex m u us ++ rest) = none := by
  obtain ⟨x, post, hxp, h1, _, _, h4, _⟩ := identLex_head m u us rest hu
  have hrun := identLex_nmchars m u us hu hus
  refine fun q hq => matchProd_none_of_ms_nil q _ _ ?_
  revert q hq
  simp only [List.forall_mem_cons, List.not_mem_nil, false_imp_iff, implies_true, and_true]
  refine ⟨?_, uri_nil a b c kU ha hb hc _ rest hrun hrest hurl, ?_, urange_nil a' kUR ha' _ rest hrun hrest hplus⟩
  · rw [hxp]
    exact test_ws.seq_stop _ _ (head_cons h4)
  · rw [hxp]
    exact ratio_nil_of_not_digit kR _ (head_cons ⟨h1, h4⟩)

/-- the text after an identifier cannot continue it and does not make it a FUNCTION: not a name
character, not a backslash, not `(` -/
def identStop : Text → Bool
  | d :: _ => !isNmChar d && d != 92 && d != 40
  | [] => true

theorem identStop_spec {rest : Text} (h : identStop rest = true) :
    NameStop rest ∧ (rest.head? == some 40) = false := by
  cases rest with
  | nil => exact ⟨nofun, rfl⟩
  | cons x r =>
    simp only [identStop, Bool.and_eq_true, Bool.not_eq_true', bne_iff_ne, ne_eq] at h
    exact ⟨fun d hd => by cases hd; exact h.1, by simpa using h.2⟩

/-- obligation on the regenerated table: HASH is `#{nmchar}+`, ATKEYWORD is `@-?{nmstart}{nmchar}*`, and
no earlier production can start with `#` resp. `@` -/
theorem gen_hash_at : ∃ X,
    findProd Gen.tables.prods "HASH" = some ⟨"HASH", none, hashRe X⟩ ∧
    findProd Gen.tables.prods "ATKEYWORD" = some ⟨"ATKEYWORD", none, atRe X⟩ ∧
    earlierCannotStart Gen.tables "HASH" 35 = true ∧ earlierCannotStart Gen.tables "ATKEYWORD" 64 = true :=
  ⟨escX, by decide +kernel⟩

theorem gen_simpleescapes_bs : startsWithBackslash Gen.tables.simpleescapes = true := by decide +kernel

theorem normalize_nobs (T : Tables) (h : startsWithBackslash T.simpleescapes = true) (t : Text)
    (hnb : NoBs t) : normalize T t = lowerT t := by
  simp only [normalize, reSub_id _ h _ _ _ hnb]

/-- what `finish` does for an escape-free at-keyword: known keywords get their own token type -/
theorem finish_at (cfg : Cfg) (hfs : cfg.fullsheet = false) (hdc : cfg.doComments = true) (st : St)
    (found rem : Text) (hnb : NoBs found)
    (hcs : ¬ (found = atCharset ∧ hasAt (st.rest.drop found.length) [32] = true)) :
    finish Gen.tables cfg st "ATKEYWORD" found rem =
      { emit := some ⟨(lookupKw Gen.atkeywords (lowerT found)).getD "ATKEYWORD", found, st.line, st.col⟩,
        raw := found, st := advance st found } := by
  have hesc : ¬ "ATKEYWORD" ∈ Gen.tables.escTypes := by decide +kernel
  have hnorm := normalize_nobs Gen.tables gen_simpleescapes_bs found hnb
  have hT : Gen.tables.atkeywords = Gen.atkeywords := rfl
  simp only [finish, finishName, hfs, Bool.false_eq_true, if_false, finishVal, List.contains_iff_mem, hesc,
    beq_self_eq_true, if_true, unicodeSub_id Gen.tables gen_backslashOnly found hnb, hnorm, hT, hdc, Bool.true_or]
  cases hl : lookupKw Gen.atkeywords (lowerT found) with
  | some sym => simp
  | none =>
    have : (found == atCharset && hasAt (List.drop found.length st.rest) [32]) = false :=
      Bool.eq_false_iff.2 fun h => hcs (by simpa using h)
    simp [this]

section
variable (cfg : Cfg) (hfs : cfg.fullsheet = false) (hdc : cfg.doComments = true) (st : St)
include hfs hdc

/-- **IDENT.** An escape-free identifier `-?{nmstart}{nmchar}*` of any length (name characters are
ASCII letters, digits, `_`, `-` and every non-ASCII code point), followed by any text that does not
start with a name character, a backslash or `(`, is one IDENT token whose value is the lexeme.  One
more side condition is read off the table: the identifier `u`/`U` must not be followed by `+`
(UNICODE-RANGE precedes IDENT). -/
theorem classify_ident (m : Bool) (u : Nat) (us rest : Text) (hu : isNmStart u = true)
    (hus : ∀ x ∈ us, isNmChar x = true) (hstop : identStop rest = true)
    (hplus : lowerT (identLex m u us) = [117] → rest.head? ≠ some 43)
    (hr : st.rest = identLex m u us ++ rest) :
    step Gen.tables cfg st =
      some { emit := some ⟨"IDENT", identLex m u us, st.line, st.col⟩, raw := identLex m u us,
             st := advance st (identLex m u us) } := by
  obtain ⟨a, b, c, kU, kR, a', kUR, X, hlay, ha, hb, hc, ha'⟩ := gen_ident_layout
  obtain ⟨hrest, hpar⟩ := identStop_spec hstop
  obtain ⟨x, post, hxp, hfast⟩ := identLex_off_fast m u us rest hu
  have hpre := name_prefix_none a b c kU kR a' kUR ha hb hc ha' st.prev m u us rest hu hus hrest
    (fun _ => head_ne (by simpa using hpar)) (fun h => head_ne (hplus h))
  rw [step_lex_none hfs (identLex m u us) rest hr hxp hfast [_, _, _, _] ⟨"IDENT", none, identRe X⟩ hlay hpre rfl
      (head_backoffs (ms_ident X m u us rest hu hus hrest)) (Or.inr hpar),
    finish_escfree Gen.tables gen_backslashOnly cfg hfs hdc st "IDENT" _ _ gen_name_escaped.1 (by decide +kernel)
      (identLex_nobs m u us hu hus)]

/-- **FUNCTION.** An escape-free identifier followed by `(` is one FUNCTION token (value: identifier
and parenthesis), whatever follows — except for two names, both read off the tokenizer: `url` (any
case; URI precedes FUNCTION and `url(` may start a URI) and `and` (any case; the tokenizer keeps
`and` as an IDENT when `(` follows). -/
theorem classify_function (m : Bool) (u : Nat) (us rest : Text) (hu : isNmStart u = true)
    (hus : ∀ x ∈ us, isNmChar x = true)
    (hurl : lowerT (identLex m u us) ≠ [117, 114, 108]) (hand : lowerT (identLex m u us) ≠ [97, 110, 100])
    (hr : st.rest = identLex m u us ++ 40 :: rest) :
    step Gen.tables cfg st =
      some { emit := some ⟨"FUNCTION", identLex m u us ++ [40], st.line, st.col⟩,
             raw := identLex m u us ++ [40], st := advance st (identLex m u us ++ [40]) } := by
  obtain ⟨a, b, c, kU, kR, a', kUR, X, hlay, ha, hb, hc, ha'⟩ := gen_ident_layout
  have hrest : NameStop (40 :: rest) := head_cons (by decide)
  obtain ⟨x, post, hxp, hfast⟩ := identLex_off_fast m u us (40 :: rest) hu
  have hpre := name_prefix_none a b c kU kR a' kUR ha hb hc ha' st.prev m u us (40 :: rest) hu hus hrest
    (fun h => absurd h hurl) (fun _ => head_cons rfl)
  -- IDENT matches the identifier, but the tokenizer passes it over before `(` unless it is `and`
  have hident : Skipped st ⟨"IDENT", none, identRe X⟩ := by
    refine Or.inr ⟨40 :: rest, ?_, ?_⟩
    · rw [hr]
      exact matchProd_some_of_head _ rfl _ _ _ (head_backoffs (ms_ident X m u us (40 :: rest) hu hus hrest))
    · rw [hr, consumed_append_right]
      simp [hand]
  have happ : identLex m u us ++ 40 :: rest = (identLex m u us ++ [40]) ++ rest := by simp
  rw [step_lex hfs (identLex m u us ++ [40]) rest (hr.trans happ) (happ ▸ hxp) hfast ([_, _, _, _] ++ [_])
      ⟨"FUNCTION", none, funcRe X⟩ (by rw [List.append_assoc]; exact hlay)
      (List.forall_mem_append.2 ⟨fun q hq => Or.inl (hr ▸ hpre q hq), List.forall_mem_singleton.2 hident⟩) rfl
      (by rw [← happ, ms_func X m u us rest hu hus]; rfl) (Or.inl rfl),
    finish_escfree Gen.tables gen_backslashOnly cfg hfs hdc st "FUNCTION" _ _ gen_name_escaped.2.1 (by decide +kernel)
      (NoBs_append (identLex_nobs m u us hu hus) (by intro c hc; simp at hc; omega))]

/-- **HASH.** `#` and a run of name characters (of any length, escape-free), followed by any text that
does not start with a name character or a backslash, is one HASH token. -/
theorem classify_hash (n : Nat) (ns rest : Text) (hn : isNmChar n = true)
    (hns : ∀ x ∈ ns, isNmChar x = true) (hrest : NameStop rest)
    (hr : st.rest = 35 :: n :: (ns ++ rest)) :
    step Gen.tables cfg st =
      some { emit := some ⟨"HASH", 35 :: n :: ns, st.line, st.col⟩, raw := 35 :: n :: ns,
             st := advance st (35 :: n :: ns) } := by
  obtain ⟨X, hfind, -, he, -⟩ := gen_hash_at
  have hnb : NoBs (35 :: n :: ns) :=
    List.forall_mem_cons.2 ⟨by decide,
      List.forall_mem_cons.2 ⟨(nmchar_facts hn).1, fun c hc => (nmchar_facts (hns c hc)).1⟩⟩
  rw [step_lex_named hfs (35 :: n :: ns) rest hr rfl (by decide +kernel) "HASH" (by decide +kernel) he hfind rfl
      (head_backoffs (ms_hash X n ns rest hn hns hrest)),
    finish_escfree Gen.tables gen_backslashOnly cfg hfs hdc st "HASH" _ _ gen_name_escaped.2.2.1
      (by decide +kernel) hnb]

/-- **ATKEYWORD.** `@` and an escape-free identifier, followed by any text that does not start with a
name character or a backslash, is one token whose value is the lexeme and whose type is the keyword's
own symbol (`IMPORT_SYM`, `MEDIA_SYM`, …, looked up case-insensitively in the regenerated keyword
table) or `ATKEYWORD` for an unknown keyword.  Side condition read off the tokenizer: `@charset`
(this exact spelling) followed by a space is the CHARSET_SYM token `@charset ` instead. -/
theorem classify_atkeyword (m : Bool) (u : Nat) (us rest : Text) (hu : isNmStart u = true)
    (hus : ∀ x ∈ us, isNmChar x = true) (hrest : NameStop rest)
    (hcs : 64 :: identLex m u us = atCharset → rest.head? ≠ some 32)
    (hr : st.rest = 64 :: (identLex m u us ++ rest)) :
    step Gen.tables cfg st =
      some { emit := some ⟨(lookupKw Gen.atkeywords (lowerT (64 :: identLex m u us))).getD "ATKEYWORD",
                           64 :: identLex m u us, st.line, st.col⟩,
             raw := 64 :: identLex m u us, st := advance st (64 :: identLex m u us) } := by
  obtain ⟨X, -, hfind, -, he⟩ := gen_hash_at
  rw [step_lex_named hfs (64 :: identLex m u us) rest hr rfl (by decide +kernel) "ATKEYWORD" (by decide +kernel)
      he hfind rfl (head_backoffs (ms_at X m u us rest hu hus hrest))]
  apply congrArg some
  apply finish_at cfg hfs hdc st
  · exact List.forall_mem_cons.2 ⟨by decide, identLex_nobs m u us hu hus⟩
  · rintro ⟨h1, h2⟩
    rw [hr, ← List.cons_append, List.drop_left] at h2
    apply hcs h1
    cases rest with
    | nil => simp [hasAt] at h2
    | cons d r =>
      have : 32 = d := by simpa [hasAt] using h2
      simp [this]

end

/-! the side conditions of the name theorems are needed (kernel-checked on the regenerated table) -/
/-- `u` followed by `+1` is a UNICODE-RANGE -/
example : tokOf (step Gen.tables ⟨false, true⟩ ⟨none, [117, 43, 49], 1, 1⟩) = some ("UNICODE-RANGE", [117, 43, 49]) := by decide +kernel
/-- an identifier followed by `(` is a FUNCTION, not an IDENT -/
example : tokOf (step Gen.tables ⟨false, true⟩ ⟨none, [97, 40], 1, 1⟩) = some ("FUNCTION", [97, 40]) := by decide +kernel
/-- … but `and(` is the IDENT `and`, and `url()` is a URI -/
example : tokOf (step Gen.tables ⟨false, true⟩ ⟨none, [65, 110, 100, 40], 1, 1⟩) = some ("IDENT", [65, 110, 100]) := by decide +kernel
example : tokOf (step Gen.tables ⟨false, true⟩ ⟨none, [117, 82, 108, 40, 41], 1, 1⟩) = some ("URI", [117, 82, 108, 40, 41]) := by decide +kernel
/-- `@charset` followed by a space is CHARSET_SYM including the space -/
example : tokOf (step Gen.tables ⟨false, true⟩ ⟨none, [64, 99, 104, 97, 114, 115, 101, 116, 32], 1, 1⟩)
    = some ("CHARSET_SYM", [64, 99, 104, 97, 114, 115, 101, 116, 32]) := by decide +kernel

/-! non-vacuity: `-moz-box;`, `été ` (non-ASCII), `u+` excluded but `u ` fine, `rgb(0`, `#fff;`, `@media `, `@foo{` -/
example : step Gen.tables ⟨false, true⟩ ⟨none, [45, 109, 111, 122, 45, 98, 111, 120, 59], 1, 1⟩ =
    some { emit := some ⟨"IDENT", [45, 109, 111, 122, 45, 98, 111, 120], 1, 1⟩, raw := [45, 109, 111, 122, 45, 98, 111, 120],
           st := advance ⟨none, [45, 109, 111, 122, 45, 98, 111, 120, 59], 1, 1⟩ [45, 109, 111, 122, 45, 98, 111, 120] } :=
  classify_ident ⟨false, true⟩ rfl rfl _ true 109 [111, 122, 45, 98, 111, 120] [59] (by decide +kernel)
    (by decide +kernel)
    (by decide +kernel) (by decide +kernel) rfl
example : step Gen.tables ⟨false, true⟩ ⟨some 32, [233, 116, 233, 32], 2, 5⟩ =
    some { emit := some ⟨"IDENT", [233, 116, 233], 2, 5⟩, raw := [233, 116, 233],
           st := advance ⟨some 32, [233, 116, 233, 32], 2, 5⟩ [233, 116, 233] } :=
  classify_ident ⟨false, true⟩ rfl rfl _ false 233 [116, 233] [32] (by decide +kernel) (by decide +kernel)
    (by decide +kernel) (by decide +kernel) rfl
example : step Gen.tables ⟨false, true⟩ ⟨none, [117, 32], 1, 1⟩ =
    some { emit := some ⟨"IDENT", [117], 1, 1⟩, raw := [117], st := advance ⟨none, [117, 32], 1, 1⟩ [117] } :=
  classify_ident ⟨false, true⟩ rfl rfl _ false 117 [] [32] (by decide +kernel) (by decide +kernel) (by decide +kernel)
    (by decide +kernel) rfl
example : step Gen.tables ⟨false, true⟩ ⟨none, [114, 103, 98, 40, 48], 1, 1⟩ =
    some { emit := some ⟨"FUNCTION", [114, 103, 98, 40], 1, 1⟩, raw := [114, 103, 98, 40],
           st := advance ⟨none, [114, 103, 98, 40, 48], 1, 1⟩ [114, 103, 98, 40] } :=
  classify_function ⟨false, true⟩ rfl rfl _ false 114 [103, 98] [48] (by decide +kernel) (by decide +kernel)
    (by decide +kernel)
    (by decide +kernel) (by decide +kernel)
example : step Gen.tables ⟨false, true⟩ ⟨none, [35, 102, 102, 102, 59], 1, 1⟩ =
    some { emit := some ⟨"HASH", [35, 102, 102, 102], 1, 1⟩, raw := [35, 102, 102, 102],
           st := advance ⟨none, [35, 102, 102, 102, 59], 1, 1⟩ [35, 102, 102, 102] } :=
  classify_hash ⟨false, true⟩ rfl rfl _ 102 [102, 102] [59] (by decide +kernel) (by decide +kernel)
    (by decide +kernel) rfl
example : step Gen.tables ⟨false, true⟩ ⟨none, [64, 77, 101, 100, 105, 97, 32], 1, 1⟩ =
    some { emit := some ⟨"MEDIA_SYM", [64, 77, 101, 100, 105, 97], 1, 1⟩, raw := [64, 77, 101, 100, 105, 97],
           st := advance ⟨none, [64, 77, 101, 100, 105, 97, 32], 1, 1⟩ [64, 77, 101, 100, 105, 97] } :=
  classify_atkeyword ⟨false, true⟩ rfl rfl _ false 77 [101, 100, 105, 97] [32] (by decide +kernel) (by decide +kernel)
    (by decide +kernel) (by decide +kernel) rfl
example : step Gen.tables ⟨false, true⟩ ⟨none, [64, 102, 111, 111, 123], 1, 1⟩ =
    some { emit := some ⟨"ATKEYWORD", [64, 102, 111, 111], 1, 1⟩, raw := [64, 102, 111, 111],
           st := advance ⟨none, [64, 102, 111, 111, 123], 1, 1⟩ [64, 102, 111, 111] } :=
  classify_atkeyword ⟨false, true⟩ rfl rfl _ false 102 [111, 111] [123] (by decide +kernel) (by decide +kernel)
    (by decide +kernel) (by decide +kernel) rfl

/-! ## CDC -/

/-- obligation on the regenerated table: before CDC `-->` there are four productions that cannot start
with `-`, then IDENT and FUNCTION `-?{nmstart}…`, DIMENSION, PERCENTAGE, NUMBER (number expression
first), then eleven productions that cannot start with `-` -/
theorem gen_cdc_layout : ∃ X K1 K2 K3 K4,
    Gen.prods = (Gen.prods.take 4 ++
      [⟨"IDENT", none, .seq (.opt minusR) (.seq (nmstartRe X) K1)⟩,
       ⟨"FUNCTION", none, .seq (.opt minusR) (.seq (nmstartRe X) K2)⟩,
       ⟨"DIMENSION", none, .seq numRe K3⟩, ⟨"PERCENTAGE", none, .seq numRe K4⟩, ⟨"NUMBER", none, numRe⟩] ++
      (Gen.prods.drop 9).take 11) ++
      ⟨"CDC", none, .seq minusR (.seq minusR (.cls false [(62, 62)]))⟩ :: Gen.prods.drop 21 ∧
    (Gen.prods.take 4 ++ (Gen.prods.drop 9).take 11).all (fun q => !canStart q.re 45) = true :=
  ⟨_, _, _, _, _, rfl, by decide +kernel⟩

theorem gen_CDC_not_escaped : Gen.tables.escTypes.contains "CDC" = false := by decide +kernel

/-- **CDC.** `-->` is one CDC token, whatever follows. -/
theorem classify_cdc (cfg : Cfg) (hfs : cfg.fullsheet = false) (hdc : cfg.doComments = true) (st : St)
    (rest : Text) (hr : st.rest = 45 :: 45 :: 62 :: rest) :
    step Gen.tables cfg st =
      some { emit := some ⟨"CDC", [45, 45, 62], st.line, st.col⟩, raw := [45, 45, 62],
             st := advance st [45, 45, 62] } := by
  obtain ⟨X, K1, K2, K3, K4, hlay, hall⟩ := gen_cdc_layout
  have hcs := all_cannot_start _ 45 hall st.prev (45 :: 62 :: rest)
  have hid : identStart (45 :: 45 :: 62 :: rest) = false := by simp [identStart, nameStart, isNmStart]
  have hnum : ms numRe (45 :: 45 :: 62 :: rest) = [] :=
    num_nil_sign 45 _ (by decide) (head_cons ⟨rfl, rfl⟩)
  refine (step_lex_none hfs [45, 45, 62] rest hr rfl (by decide) _ ⟨"CDC", none, litRe 45 [45, 62]⟩ hlay ?_ rfl
      (congrArg List.head? (ms_litRe rest [45, 62] 45)) (Or.inl rfl)).trans ?_
  · refine List.forall_mem_append.2 ⟨List.forall_mem_append.2 ⟨fun q h => hcs q (List.mem_append_left _ h),
      fun q hq => matchProd_none_of_ms_nil q _ _ ?_⟩, fun q h => hcs q (List.mem_append_right _ h)⟩
    revert q hq
    simp only [List.forall_mem_cons, List.not_mem_nil, false_imp_iff, implies_true, and_true]
    exact ⟨minus_nmstart_nil X K1 _ hid, minus_nmstart_nil X K2 _ hid, ms_seq_nil_left _ _ _ hnum,
      ms_seq_nil_left _ _ _ hnum, hnum⟩
  · rw [finish_plain Gen.tables cfg hfs hdc st "CDC" _ _ gen_CDC_not_escaped (by decide +kernel)]

example : step Gen.tables ⟨false, true⟩ ⟨none, [45, 45, 62, 45], 1, 1⟩ =
    some { emit := some ⟨"CDC", [45, 45, 62], 1, 1⟩, raw := [45, 45, 62],
           st := advance ⟨none, [45, 45, 62, 45], 1, 1⟩ [45, 45, 62] } :=
  classify_cdc ⟨false, true⟩ rfl rfl _ [45] rfl

/-! ## comments -/

/-- obligation on the regenerated table: COMMENT is `\/\*[^*]*\*+([^/*][^*]*\*+)*\/`, no earlier
production can start with `/`, and comment values go through the `\hex` rewrite like names -/
theorem gen_comment :
    findProd Gen.tables.prods "COMMENT" = some ⟨"COMMENT", none, commentRe⟩ ∧
    earlierCannotStart Gen.tables "COMMENT" 47 = true ∧ Gen.tables.escTypes.contains "COMMENT" = true :=
  by decide +kernel

def commentLex (body : Text) : Text := 47 :: 42 :: (body ++ [42, 47])

/-- **COMMENT.** `/*`, a body of any length that does not contain `*/`, and `*/` is one COMMENT token,
whatever follows.  Its raw text is the lexeme; its *value* is the lexeme after the tokenizer's `\hex`
rewrite (COMMENT is among the escaped token types of the table), so it equals the lexeme when the
body has no backslash (`classify_comment_plain`). -/
theorem classify_comment (cfg : Cfg) (hfs : cfg.fullsheet = false) (hdc : cfg.doComments = true) (st : St)
    (body rest : Text) (hbody : noClose body = true) (hr : st.rest = commentLex body ++ rest) :
    step Gen.tables cfg st =
      some { emit := some ⟨"COMMENT", unicodeSub Gen.tables (commentLex body), st.line, st.col⟩,
             raw := commentLex body, st := advance st (commentLex body) } := by
  obtain ⟨hfind, he, hesc⟩ := gen_comment
  have hs : commentLex body ++ rest = 47 :: 42 :: (body ++ 42 :: 47 :: rest) := by simp [commentLex]
  rw [step_lex_named hfs (commentLex body) rest hr rfl (by decide +kernel) "COMMENT"
      (by decide +kernel) he hfind rfl (by rw [hs, ms_comment body rest hbody]; rfl),
    finish_esc Gen.tables cfg hfs hdc st "COMMENT" _ _ hesc (by decide +kernel)]

theorem classify_comment_plain (cfg : Cfg) (hfs : cfg.fullsheet = false) (hdc : cfg.doComments = true)
    (st : St) (body rest : Text) (hbody : noClose body = true) (hnb : NoBs body)
    (hr : st.rest = commentLex body ++ rest) :
    step Gen.tables cfg st =
      some { emit := some ⟨"COMMENT", commentLex body, st.line, st.col⟩,
             raw := commentLex body, st := advance st (commentLex body) } := by
  rw [classify_comment cfg hfs hdc st body rest hbody hr, unicodeSub_id Gen.tables gen_backslashOnly]
  exact List.forall_mem_cons.2 ⟨by decide, List.forall_mem_cons.2 ⟨by decide,
    List.forall_mem_append.2 ⟨hnb, by decide⟩⟩⟩

/-- the value of a comment is rewritten: `/*\41 */` has value `/*A*/` -/
example : tokOf (step Gen.tables ⟨false, true⟩ ⟨none, [47, 42, 92, 52, 49, 32, 42, 47], 1, 1⟩)
    = some ("COMMENT", [47, 42, 65, 42, 47]) := by decide +kernel
/-- a body containing `*/` ends the comment early -/
example : tokOf (step Gen.tables ⟨false, true⟩ ⟨none, [47, 42, 42, 47, 42, 47], 1, 1⟩)
    = some ("COMMENT", [47, 42, 42, 47]) := by decide +kernel

/-! non-vacuity: `/* a**b/ **/x` and the empty comment `/**/` -/
example : step Gen.tables ⟨false, true⟩ ⟨none, [47, 42, 32, 97, 42, 42, 98, 47, 32, 42, 42, 47, 120], 1, 1⟩ =
    some { emit := some ⟨"COMMENT", [47, 42, 32, 97, 42, 42, 98, 47, 32, 42, 42, 47], 1, 1⟩,
           raw := [47, 42, 32, 97, 42, 42, 98, 47, 32, 42, 42, 47],
           st := advance ⟨none, [47, 42, 32, 97, 42, 42, 98, 47, 32, 42, 42, 47, 120], 1, 1⟩
             [47, 42, 32, 97, 42, 42, 98, 47, 32, 42, 42, 47] } :=
  classify_comment_plain ⟨false, true⟩ rfl rfl _ [32, 97, 42, 42, 98, 47, 32, 42] [120] (by decide +kernel)
    (by decide +kernel) rfl
example : step Gen.tables ⟨false, true⟩ ⟨none, [47, 42, 42, 47], 1, 1⟩ =
    some { emit := some ⟨"COMMENT", [47, 42, 42, 47], 1, 1⟩, raw := [47, 42, 42, 47],
           st := advance ⟨none, [47, 42, 42, 47], 1, 1⟩ [47, 42, 42, 47] } :=
  classify_comment_plain ⟨false, true⟩ rfl rfl _ [] [] (by decide +kernel) (by decide +kernel) rfl

/-! ## escape-free strings -/

/-- obligation on the regenerated table: STRING is `"([^\n\r\f\\"]|\…)*"|'([^\n\r\f\\']|\…)*'`, it is the
first production that can start with a quote, and string values are rewritten only at backslashes -/
theorem gen_string : ∃ A B,
    findProd Gen.tables.prods "STRING" = some ⟨"STRING", none, stringRe A B⟩ ∧
    earlierCannotStart Gen.tables "STRING" 34 = true ∧ earlierCannotStart Gen.tables "STRING" 39 = true ∧
    Gen.tables.escTypes.contains "STRING" = true :=
  ⟨_, _, rfl, by decide +kernel⟩

/-- **STRING.** A quote (`"` or `'`), a body of any length without newline characters (`\n`, `\r`,
`\f`), backslash or that quote, and the same quote again, is one STRING token whose value is the
lexeme, whatever follows. -/
theorem classify_string (cfg : Cfg) (hfs : cfg.fullsheet = false) (hdc : cfg.doComments = true) (st : St)
    (q : Nat) (hq : q = 34 ∨ q = 39) (body rest : Text) (hbody : ∀ c ∈ body, isStrChar q c = true)
    (hr : st.rest = q :: (body ++ q :: rest)) :
    step Gen.tables cfg st =
      some { emit := some ⟨"STRING", q :: (body ++ [q]), st.line, st.col⟩, raw := q :: (body ++ [q]),
             st := advance st (q :: (body ++ [q])) } := by
  obtain ⟨A, B, hfind, he34, he39, hesc⟩ := gen_string
  obtain ⟨hm, hfast, he, hq92⟩ : (ms (stringRe A B) (q :: (body ++ q :: rest))).head? = some rest ∧
      Gen.tables.fastChars.contains q = false ∧ earlierCannotStart Gen.tables "STRING" q = true ∧ q ≠ 92 := by
    rcases hq with rfl | rfl
    · exact ⟨by rw [ms_string_dq A B body rest hbody]; rfl, by decide, he34, by decide⟩
    · exact ⟨by rw [ms_string_sq A B body rest hbody]; rfl, by decide, he39, by decide⟩
  have hnb : NoBs (q :: (body ++ [q])) :=
    List.forall_mem_cons.2 ⟨hq92, List.forall_mem_append.2
      ⟨fun c h => by
        have := hbody c h
        simp only [isStrChar, Bool.and_eq_true, bne_iff_ne] at this
        exact this.1.2, List.forall_mem_singleton.2 hq92⟩⟩
  rw [step_lex_named hfs (q :: (body ++ [q])) rest (by simpa using hr) rfl hfast "STRING" (by decide +kernel) he hfind rfl
      (by simpa using hm),
    finish_string gen_backslashOnly hfs hdc st _ hesc hnb]

/-! non-vacuity: `"a 'b'";` and the empty string `''` -/
example : step Gen.tables ⟨false, true⟩ ⟨none, [34, 97, 32, 39, 98, 39, 34, 59], 1, 1⟩ =
    some { emit := some ⟨"STRING", [34, 97, 32, 39, 98, 39, 34], 1, 1⟩, raw := [34, 97, 32, 39, 98, 39, 34],
           st := advance ⟨none, [34, 97, 32, 39, 98, 39, 34, 59], 1, 1⟩ [34, 97, 32, 39, 98, 39, 34] } :=
  classify_string ⟨false, true⟩ rfl rfl _ 34 (Or.inl rfl) [97, 32, 39, 98, 39] [59] (by decide +kernel) rfl
example : step Gen.tables ⟨false, true⟩ ⟨none, [39, 39], 1, 1⟩ =
    some { emit := some ⟨"STRING", [39, 39], 1, 1⟩, raw := [39, 39],
           st := advance ⟨none, [39, 39], 1, 1⟩ [39, 39] } :=
  classify_string ⟨false, true⟩ rfl rfl _ 39 (Or.inr rfl) [] [] (by decide +kernel) rfl
/-- a newline in the body makes it an INVALID token instead -/
example : tokOf (step Gen.tables ⟨false, true⟩ ⟨none, [34, 97, 10, 34], 1, 1⟩) = some ("INVALID", [34, 97]) := by decide +kernel

/-! ## signed numbers, percentages, dimensions -/

/-- obligation on the regenerated table: productions 4–6 are one that cannot start with a sign, then
IDENT and FUNCTION `-?{nmstart}…`; the first two productions cannot start with a sign either; signs are
not on the fast path -/
theorem gen_signed_layout : ∃ ur X K1 K2,
    (Gen.prods.drop 3).take 3 = [ur, ⟨"IDENT", none, .seq (.opt minusR) (.seq (nmstartRe X) K1)⟩,
      ⟨"FUNCTION", none, .seq (.opt minusR) (.seq (nmstartRe X) K2)⟩] ∧
    (∀ x ∈ [43, 45], (ur :: Gen.prods.take 2).all (fun q => !canStart q.re x) = true) ∧
    (∀ x ∈ [43, 45], Gen.tables.fastChars.contains x = false) :=
  ⟨_, _, _, _, rfl, by decide +kernel⟩

theorem sign_mem {x : Nat} (hx : isSign x = true) : x ∈ [43, 45] := by
  simp only [isSign, Bool.or_eq_true, decide_eq_true_eq] at hx
  simp; omega

theorem sign_off_fast {x : Nat} (hx : isSign x = true) : Gen.tables.fastChars.contains x = false := by
  obtain ⟨_, _, _, _, _, _, h⟩ := gen_signed_layout
  exact h x (sign_mem hx)

theorem nobs_signed {num : Text} (hnum : NumLex num) {x : Nat} (hx : isSign x = true) : NoBs (x :: num) := by
  refine List.forall_mem_cons.2 ⟨?_, hnum.nobs⟩
  simp only [isSign, Bool.or_eq_true, decide_eq_true_eq] at hx
  omega

theorem signed_prefix (x : Nat) (hx : isSign x = true) (num t : Text) (hnum : NumLex num)
    (prev : Option Nat) :
    ∀ kR, ∀ q ∈ Gen.prods.take 2 ++ ⟨"RATIO", some 40, ratioRe kR⟩ :: (Gen.prods.drop 3).take 3,
      matchProd q prev (x :: (num ++ t)) = none := by
  obtain ⟨ur, X, K1, K2, hmid, hall, -⟩ := gen_signed_layout
  have hcs := all_cannot_start _ x (hall x (sign_mem hx)) prev (num ++ t)
  have hid := identStart_sign_num hnum x hx t
  have hx' : isDigit x = false ∧ isWsC x = false := by
    simp only [isSign, Bool.or_eq_true, decide_eq_true_eq] at hx
    simp [isDigit, isWsC]; omega
  intro kR
  rw [hmid]
  refine List.forall_mem_append.2 ⟨fun q h => hcs q (List.mem_cons_of_mem _ h), ?_⟩
  simp only [List.forall_mem_cons, List.not_mem_nil, false_imp_iff, implies_true, and_true]
  exact ⟨matchProd_none_of_ms_nil _ _ _ (ratio_nil_of_not_digit kR _ (head_cons hx')),
    hcs _ List.mem_cons_self, matchProd_none_of_ms_nil _ _ _ (minus_nmstart_nil X K1 _ hid),
    matchProd_none_of_ms_nil _ _ _ (minus_nmstart_nil X K2 _ hid)⟩

section
variable (cfg : Cfg) (hfs : cfg.fullsheet = false) (hdc : cfg.doComments = true) (st : St)
include hfs hdc

/-- **NUMBER with a sign.** `+` or `-`, then an unsigned numeric lexeme, followed by a text that cannot
continue it, is one NUMBER token.  RATIO cannot start at a sign, so after an integer only the
`.digit` condition remains. -/
theorem classify_number_signed (x : Nat) (hx : isSign x = true) (num rest : Text) (hnum : NumLex num)
    (hstop : numStop rest = true) (hint : 46 ∈ num ∨ dotDigit rest = false)
    (hr : st.rest = x :: (num ++ rest)) :
    step Gen.tables cfg st =
      some { emit := some ⟨"NUMBER", x :: num, st.line, st.col⟩, raw := x :: num,
             st := advance st (x :: num) } := by
  obtain ⟨hid, hdig, hpct⟩ := numStop_spec hstop
  exact number_core cfg hfs hdc st (x :: num) rest x (num ++ rest) rfl (sign_off_fast hx) hr
    (hnum.res_signed x hx rest hdig hint) (signed_prefix x hx num rest hnum st.prev) hid hpct

theorem classify_percentage_signed (x : Nat) (hx : isSign x = true) (num rest : Text) (hnum : NumLex num)
    (hr : st.rest = x :: (num ++ 37 :: rest)) :
    step Gen.tables cfg st =
      some { emit := some ⟨"PERCENTAGE", x :: (num ++ [37]), st.line, st.col⟩, raw := x :: (num ++ [37]),
             st := advance st (x :: (num ++ [37])) } := by
  exact percentage_core cfg hfs hdc st (x :: num) rest x (num ++ 37 :: rest) rfl (sign_off_fast hx) hr
    (hnum.res_signed_of_head x hx 37 rest (by decide) (by decide))
    (signed_prefix x hx num (37 :: rest) hnum st.prev)

theorem classify_dimension_signed (x : Nat) (hx : isSign x = true) (num : Text) (m : Bool) (u : Nat)
    (us rest : Text) (hnum : NumLex num) (hu : isNmStart u = true) (hus : ∀ y ∈ us, isNmChar y = true)
    (hrest : NameStop rest) (hr : st.rest = x :: (num ++ (identLex m u us ++ rest))) :
    step Gen.tables cfg st =
      some { emit := some ⟨"DIMENSION", x :: (num ++ identLex m u us), st.line, st.col⟩,
             raw := x :: (num ++ identLex m u us), st := advance st (x :: (num ++ identLex m u us)) } := by
  obtain ⟨y, post, hyp, h1, h2, -⟩ := identLex_head m u us rest hu
  have hres := hnum.res_signed_of_head x hx y post h1 h2
  rw [← hyp] at hres
  exact dimension_core cfg hfs hdc st (x :: num) m u us rest x (num ++ (identLex m u us ++ rest))
    (nobs_signed hnum hx) hu hus hrest rfl (sign_off_fast hx) hr hres (signed_prefix x hx num _ hnum st.prev)

end

/-! non-vacuity: `-0.5em}`, `+10%`, `-3 ` -/
example : step Gen.tables ⟨false, true⟩ ⟨some 58, [45, 48, 46, 53, 101, 109, 125], 1, 1⟩ =
    some { emit := some ⟨"DIMENSION", [45, 48, 46, 53, 101, 109], 1, 1⟩, raw := [45, 48, 46, 53, 101, 109],
           st := advance ⟨some 58, [45, 48, 46, 53, 101, 109, 125], 1, 1⟩ [45, 48, 46, 53, 101, 109] } :=
  classify_dimension_signed ⟨false, true⟩ rfl rfl _ 45 (by decide +kernel) [48, 46, 53] false 101 [109] [125]
    (isNumLex_spec (by decide +kernel)) (by decide +kernel) (by decide +kernel) (by decide +kernel) rfl
example : step Gen.tables ⟨false, true⟩ ⟨none, [43, 49, 48, 37], 1, 1⟩ =
    some { emit := some ⟨"PERCENTAGE", [43, 49, 48, 37], 1, 1⟩, raw := [43, 49, 48, 37],
           st := advance ⟨none, [43, 49, 48, 37], 1, 1⟩ [43, 49, 48, 37] } :=
  classify_percentage_signed ⟨false, true⟩ rfl rfl _ 43 (by decide +kernel) [49, 48] []
    (isNumLex_spec (by decide +kernel)) rfl
example : step Gen.tables ⟨false, true⟩ ⟨none, [45, 51, 32], 1, 1⟩ =
    some { emit := some ⟨"NUMBER", [45, 51], 1, 1⟩, raw := [45, 51],
           st := advance ⟨none, [45, 51, 32], 1, 1⟩ [45, 51] } :=
  classify_number_signed ⟨false, true⟩ rfl rfl _ 45 (by decide +kernel) [51] [32]
    (isNumLex_spec (by decide +kernel)) (by decide +kernel) (Or.inr (by decide +kernel)) rfl
/-- a signed integer before `/2)` is a NUMBER (RATIO has no sign) -/
example : tokOf (step Gen.tables ⟨false, true⟩ ⟨none, [45, 49, 47, 50, 41], 1, 1⟩) = some ("NUMBER", [45, 49]) := by decide +kernel

/-! ## delimiters that an earlier production can start with: `/ * ~ | ^ $ + . - < # @` -/

/-- obligation on the regenerated table: CHAR `[^"']` is the last production -/
theorem gen_char_last :
    Gen.prods = Gen.prods.take 21 ++ [⟨"CHAR", none, .cls true [(34, 34), (39, 39)]⟩] := rfl

theorem classify_char_ctx (cfg : Cfg) (hfs : cfg.fullsheet = false) (hdc : cfg.doComments = true) (st : St)
    (c : Nat) (s : Text) (hr : st.rest = c :: s) (hfast : Gen.tables.fastChars.contains c = false)
    (hq : c ≠ 34 ∧ c ≠ 39)
    (hpre : ∀ q ∈ (Gen.prods.take 21).filter (fun q => canStart q.re c), matchProd q st.prev (c :: s) = none) :
    step Gen.tables cfg st =
      some { emit := some ⟨"CHAR", [c], st.line, st.col⟩, raw := [c], st := advance st [c] } := by
  have hall : ∀ q ∈ Gen.prods.take 21, matchProd q st.prev (c :: s) = none := by
    intro q hq'
    by_cases h : canStart q.re c = true
    · exact hpre q (List.mem_filter.mpr ⟨hq', h⟩)
    · exact matchProd_none_of_canStart q _ c s (by simpa using h)
  have hm : (ms (.cls true [(34, 34), (39, 39)]) (c :: s)).head? = some s := by
    have h : (c < 34 ∨ 34 < c) ∧ (c < 39 ∨ 39 < c) := by omega
    simp [ms, clsMatch, inRanges, h]
  rw [step_lex_none hfs [c] s hr rfl hfast _ ⟨"CHAR", none, _⟩ gen_char_last hall rfl hm
      (Or.inl rfl),
    finish_plain Gen.tables cfg hfs hdc st "CHAR" _ _ gen_CHAR_not_escaped (by decide +kernel)]

/-- obligation on the regenerated table: which productions before CHAR can start with each of these
delimiters, and their shapes -/
theorem gen_delim_layout : ∃ X K1 K2 K3 K4 K5,
    (Gen.prods.take 21).filter (fun q => canStart q.re 47) = [⟨"COMMENT", none, commentRe⟩] ∧
    (Gen.prods.take 21).filter (fun q => canStart q.re 42) =
      [⟨"SUBSTRINGMATCH", none, .seq (.cls false [(42, 42)]) (.cls false [(61, 61)])⟩] ∧
    (Gen.prods.take 21).filter (fun q => canStart q.re 126) =
      [⟨"INCLUDES", none, .seq (.cls false [(126, 126)]) (.cls false [(61, 61)])⟩] ∧
    (Gen.prods.take 21).filter (fun q => canStart q.re 124) =
      [⟨"DASHMATCH", none, .seq (.cls false [(124, 124)]) (.cls false [(61, 61)])⟩] ∧
    (Gen.prods.take 21).filter (fun q => canStart q.re 94) =
      [⟨"PREFIXMATCH", none, .seq (.cls false [(94, 94)]) (.cls false [(61, 61)])⟩] ∧
    (Gen.prods.take 21).filter (fun q => canStart q.re 36) =
      [⟨"SUFFIXMATCH", none, .seq (.cls false [(36, 36)]) (.cls false [(61, 61)])⟩] ∧
    (Gen.prods.take 21).filter (fun q => canStart q.re 43) =
      [⟨"DIMENSION", none, .seq numRe K3⟩, ⟨"PERCENTAGE", none, .seq numRe K4⟩, ⟨"NUMBER", none, numRe⟩] ∧
    (Gen.prods.take 21).filter (fun q => canStart q.re 46) =
      [⟨"DIMENSION", none, .seq numRe K3⟩, ⟨"PERCENTAGE", none, .seq numRe K4⟩, ⟨"NUMBER", none, numRe⟩] ∧
    (Gen.prods.take 21).filter (fun q => canStart q.re 45) =
      [⟨"IDENT", none, .seq (.opt minusR) (.seq (nmstartRe X) K1)⟩,
       ⟨"FUNCTION", none, .seq (.opt minusR) (.seq (nmstartRe X) K2)⟩,
       ⟨"DIMENSION", none, .seq numRe K3⟩, ⟨"PERCENTAGE", none, .seq numRe K4⟩, ⟨"NUMBER", none, numRe⟩,
       ⟨"CDC", none, .seq minusR (.seq minusR (.cls false [(62, 62)]))⟩] ∧
    (Gen.prods.take 21).filter (fun q => canStart q.re 60) =
      [⟨"CDO", none, .seq (.cls false [(60, 60)]) (.seq (.cls false [(33, 33)]) K5)⟩] ∧
    (Gen.prods.take 21).filter (fun q => canStart q.re 35) = [⟨"HASH", none, hashRe X⟩] ∧
    (Gen.prods.take 21).filter (fun q => canStart q.re 64) = [⟨"ATKEYWORD", none, atRe X⟩] :=
  ⟨escX, .star (nmcharRe escX), .seq (.star (nmcharRe escX)) lparR, identRe escX, pctR, litRe 45 [45],
    by decide +kernel⟩

/-- Bool form of `NameStop` -/
def nameStop : Text → Bool
  | d :: _ => !isNmChar d && d != 92
  | [] => true

theorem nameStop_spec {rest : Text} (h : nameStop rest = true) : NameStop rest :=
  forall_head fun x r hr => by subst hr; simpa [nameStop] using h

/-- the delimiters treated by `classify_cdelim`: `/ * ~ | ^ $ + . - < # @` -/
def ctxDelims : List Nat := [47, 42, 126, 124, 94, 36, 43, 46, 45, 60, 35, 64]

/-- when the delimiter `c` stands for itself: a condition on the first character of the text after it
(for `+ - < @` slightly stronger than necessary, so that one character decides) -/
def ctxStop (c : Nat) (rest : Text) : Bool :=
  if c = 47 then rest.head? != some 42
  else if c = 42 ∨ c = 126 ∨ c = 124 ∨ c = 94 ∨ c = 36 then rest.head? != some 61
  else if c = 43 then (match rest with | d :: _ => !isDigit d && d != 46 | [] => true)
  else if c = 46 then (match rest with | d :: _ => !isDigit d | [] => true)
  else if c = 45 then
    (match rest with | d :: _ => !isDigit d && d != 46 && !isNmStart d && d != 92 && d != 45 | [] => true)
  else if c = 60 then rest.head? != some 33
  else if c = 35 then nameStop rest
  else if c = 64 then (match rest with | d :: _ => !isNmStart d && d != 92 && d != 45 | [] => true)
  else false

theorem head_ne_of_bne {rest : Text} {x : Nat} (h : (rest.head? != some x) = true) : rest.head? ≠ some x := by
  simpa using h

theorem gen_ctxDelims : ∀ c ∈ ctxDelims, Gen.tables.fastChars.contains c = false ∧ c ≠ 34 ∧ c ≠ 39 := by
  decide +kernel

theorem ctxStop_mem {c : Nat} {s : Text} (h : ctxStop c s = true) : c ∈ ctxDelims := by
  by_cases hm : c ∈ ctxDelims
  · exact hm
  · simp only [ctxDelims, List.mem_cons, List.not_mem_nil, or_false, not_or] at hm
    simp [ctxStop, hm] at h

/-- **contextual delimiters.**  `/` not followed by `*`; `* ~ | ^ $` not followed by `=`; `+` not followed
by a digit or `.`; `.` not followed by a digit; `-` not followed by a digit, `.`, a name-start character,
a backslash or `-`; `<` not followed by `!`; `#` not followed by a name character or a backslash; `@`
not followed by `-`, a name-start character or a backslash: each is a CHAR token of its own. -/
theorem classify_cdelim (cfg : Cfg) (hfs : cfg.fullsheet = false) (hdc : cfg.doComments = true) (st : St)
    (c : Nat) (s : Text) (hc : ctxStop c s = true) (hr : st.rest = c :: s) :
    step Gen.tables cfg st =
      some { emit := some ⟨"CHAR", [c], st.line, st.col⟩, raw := [c], st := advance st [c] } := by
  obtain ⟨X, K1, K2, K3, K4, K5, h47, h42, h126, h124, h94, h36, h43, h46, h45, h60, h35, h64⟩ := gen_delim_layout
  have hmem := ctxStop_mem hc
  obtain ⟨hfast, hq⟩ := gen_ctxDelims c hmem
  refine classify_char_ctx cfg hfs hdc st c s hr hfast hq ?_
  suffices h : ∀ q ∈ (Gen.prods.take 21).filter (fun q => canStart q.re c), ms q.re (c :: s) = [] from
    fun q hq => matchProd_none_of_ms_nil q _ _ (h q hq)
  -- DIMENSION, PERCENTAGE and NUMBER fail where the number expression fails
  have hnum : ∀ x, ms numRe (x :: s) = [] → ∀ q ∈ [(⟨"DIMENSION", none, .seq numRe K3⟩ : Prod),
      ⟨"PERCENTAGE", none, .seq numRe K4⟩, ⟨"NUMBER", none, numRe⟩], ms q.re (x :: s) = [] := by
    intro x h
    simp only [List.forall_mem_cons, List.not_mem_nil, false_imp_iff, implies_true, and_true]
    exact ⟨ms_seq_nil_left _ _ _ h, ms_seq_nil_left _ _ _ h, h⟩
  simp only [ctxDelims, List.mem_cons, List.not_mem_nil, or_false] at hmem
  rcases hmem with rfl | rfl | rfl | rfl | rfl | rfl | rfl | rfl | rfl | rfl | rfl | rfl
  · rw [h47]
    exact List.forall_mem_singleton.2 (comment_nil s (head_ne_of_bne hc))
  · rw [h42]
    exact List.forall_mem_singleton.2 (ms_litRe_nil 42 61 [] s (head_ne_of_bne hc))
  · rw [h126]
    exact List.forall_mem_singleton.2 (ms_litRe_nil 126 61 [] s (head_ne_of_bne hc))
  · rw [h124]
    exact List.forall_mem_singleton.2 (ms_litRe_nil 124 61 [] s (head_ne_of_bne hc))
  · rw [h94]
    exact List.forall_mem_singleton.2 (ms_litRe_nil 94 61 [] s (head_ne_of_bne hc))
  · rw [h36]
    exact List.forall_mem_singleton.2 (ms_litRe_nil 36 61 [] s (head_ne_of_bne hc))
  · rw [h43]
    exact hnum 43
      (num_nil_sign 43 s (by decide) (forall_head fun x r h => by subst h; simpa [ctxStop] using hc))
  · rw [h46]
    exact hnum 46 (num_nil_dot s (forall_head fun x r h => by subst h; simpa [ctxStop] using hc))
  · rw [h45]
    have hs : (∀ d ∈ s.head?, isDigit d = false ∧ (d == 46) = false) ∧ nameStart s = false ∧ s.head? ≠ some 45 := by
      cases s with
      | nil => simp [nameStart]
      | cons x r => simpa [ctxStop, nameStart, and_assoc] using hc
    have hn := num_nil_sign 45 s (by decide) hs.1
    have hid : identStart (45 :: s) = false := hs.2.1
    simp only [List.forall_mem_cons, List.not_mem_nil, false_imp_iff, implies_true, and_true]
    exact ⟨minus_nmstart_nil X K1 _ hid, minus_nmstart_nil X K2 _ hid, ms_seq_nil_left _ _ _ hn,
      ms_seq_nil_left _ _ _ hn, hn, ms_litRe_nil 45 45 [62] s hs.2.2⟩
  · rw [h60]
    exact List.forall_mem_singleton.2 (cdo_nil K5 s (head_ne_of_bne hc))
  · rw [h35]
    exact List.forall_mem_singleton.2 (hash_nil X s (nameStop_spec hc))
  · rw [h64]
    refine List.forall_mem_singleton.2 (at_nil X s ?_)
    cases s with
    | nil => rfl
    | cons x r =>
      simp [ctxStop] at hc
      simp [identStart, nameStart, hc]

/-! the conditions are needed (kernel-checked): `*=` is SUBSTRINGMATCH, `+1`, `.5` are numbers, `-a` is an
identifier, `#a` a HASH, `@a` an at-keyword -/
example : tokOf (step Gen.tables ⟨false, true⟩ ⟨none, [42, 61], 1, 1⟩) = some ("SUBSTRINGMATCH", [42, 61]) := by decide +kernel
example : tokOf (step Gen.tables ⟨false, true⟩ ⟨none, [43, 49], 1, 1⟩) = some ("NUMBER", [43, 49]) := by decide +kernel
example : tokOf (step Gen.tables ⟨false, true⟩ ⟨none, [46, 53], 1, 1⟩) = some ("NUMBER", [46, 53]) := by decide +kernel
example : tokOf (step Gen.tables ⟨false, true⟩ ⟨none, [45, 97], 1, 1⟩) = some ("IDENT", [45, 97]) := by decide +kernel
example : tokOf (step Gen.tables ⟨false, true⟩ ⟨none, [35, 97], 1, 1⟩) = some ("HASH", [35, 97]) := by decide +kernel
example : tokOf (step Gen.tables ⟨false, true⟩ ⟨none, [64, 97], 1, 1⟩) = some ("ATKEYWORD", [64, 97]) := by decide +kernel
/-! non-vacuity: `/ `, `*{`, `.a`, `-(`, `+ ` -/
example : step Gen.tables ⟨false, true⟩ ⟨none, [47, 32], 1, 1⟩ =
    some { emit := some ⟨"CHAR", [47], 1, 1⟩, raw := [47], st := advance ⟨none, [47, 32], 1, 1⟩ [47] } :=
  classify_cdelim ⟨false, true⟩ rfl rfl _ 47 [32] (by decide +kernel) rfl
example : step Gen.tables ⟨false, true⟩ ⟨none, [46, 97], 1, 1⟩ =
    some { emit := some ⟨"CHAR", [46], 1, 1⟩, raw := [46], st := advance ⟨none, [46, 97], 1, 1⟩ [46] } :=
  classify_cdelim ⟨false, true⟩ rfl rfl _ 46 [97] (by decide +kernel) rfl
example : step Gen.tables ⟨false, true⟩ ⟨none, [45, 40], 1, 1⟩ =
    some { emit := some ⟨"CHAR", [45], 1, 1⟩, raw := [45], st := advance ⟨none, [45, 40], 1, 1⟩ [45] } :=
  classify_cdelim ⟨false, true⟩ rfl rfl _ 45 [40] (by decide +kernel) rfl


/-! ## names with hex escapes: HASH, IDENT, DIMENSION -/

/-- obligation on the regenerated table: the escape inside `{nmstart}`/`{nmchar}` is `escX`
(`{unicode}|\\[^\n\r\f0-9a-fA-F]` with the one-way-only `{unicode}`), in IDENT, DIMENSION and HASH; the
productions before IDENT are as in `gen_ident_layout` -/
theorem gen_esc_layout : ∃ a b c kU kR a' kUR,
    Gen.prods = ⟨"S", none, sRe⟩ :: ⟨"URI", none, .seq a (.seq b (.seq c (.seq lparR kU)))⟩ ::
      ⟨"RATIO", some 40, ratioRe kR⟩ :: ⟨"UNICODE-RANGE", none, .seq a' (.seq plusR kUR)⟩ ::
      ⟨"IDENT", none, identRe escX⟩ :: ⟨"FUNCTION", none, funcRe escX⟩ ::
      ⟨"DIMENSION", none, .seq numRe (identRe escX)⟩ :: Gen.prods.drop 7 ∧
    letterOK a 85 117 = true ∧ letterOK a' 85 117 = true ∧
    findProd Gen.tables.prods "HASH" = some ⟨"HASH", none, hashRe escX⟩ := by
  obtain ⟨a, b, c, kU, kR, a', kUR, hlay, ha, -, -, ha'⟩ := gen_names_layout
  exact ⟨a, b, c, kU, kR, a', kUR, hlay, ha, ha', by decide +kernel⟩

theorem unit_ok_weaken (u : NmUnit) (t : Text) (h : u.ok true t = true) : u.ok false t = true := by
  cases u with
  | plain c =>
    simp only [NmUnit.ok, if_true] at h
    simp [NmUnit.ok, isNmChar, h]
  | esc ds term => exact h

/-- the value of a name with hex escapes: optional `-`, then every unit's character -/
def nameVal (m : Bool) (u : NmUnit) (us : List NmUnit) : Text :=
  (if m then [45] else []) ++ (u.val ++ unitsVal us)

theorem cssUnescape_unitsText (us : List NmUnit) (rest : Text) (hok : unitsOK us rest = true) :
    Escape.cssUnescape (unitsText us) = unitsVal us := by
  simpa [cssUnescape_nil] using cssUnescape_units us [] (unitsOK_nil us rest hok)

theorem cssUnescape_name (m : Bool) (u : NmUnit) (us : List NmUnit) (rest : Text)
    (h : nameOKE u us rest = true) : Escape.cssUnescape (nameText m u us) = nameVal m u us := by
  simp only [nameOKE, Bool.and_eq_true] at h
  have := cssUnescape_unitsText (u :: us) rest (by
    simp only [unitsOK, Bool.and_eq_true]
    exact ⟨unit_ok_weaken u _ h.1, h.2⟩)
  unfold nameText nameVal
  cases m with
  | false => simpa [unitsText_cons, unitsVal] using this
  | true =>
    simp only [if_true, List.cons_append, List.nil_append]
    rw [cssUnescape_plain 45 _ (by decide)]
    congr 1

theorem cssUnescape_nobs_prefix (pre t : Text) (h : NoBs pre) :
    Escape.cssUnescape (pre ++ t) = pre ++ Escape.cssUnescape t := by
  induction pre with
  | nil => rfl
  | cons d ds ih =>
    rw [List.cons_append, cssUnescape_plain d _ (h d List.mem_cons_self),
      ih (fun x hx => h x (List.mem_cons_of_mem _ hx))]
    rfl

/-- the first character of the identifier rules out URI and UNICODE-RANGE: a leading `-`, or a plain
first character other than `u`/`U` -/
def firstOK (m : Bool) (u : NmUnit) : Bool :=
  m || (match u with | .plain c => c != 85 && c != 117 | .esc _ _ => false)

theorem letter_nil (a : Re) (ha : letterOK a 85 117 = true) (x : Nat) (post : Text) (h92 : x ≠ 92)
    (h85 : x ≠ 85) (h117 : x ≠ 117) : ms a (x :: post) = [] := by
  cases hl : ms a (x :: post) with
  | nil => rfl
  | cons t ts =>
    have := (letterOK_spec a 85 117 ha x post h92 t (by rw [hl]; exact List.mem_cons_self)).2
    omega

/-- the first character of a name with escapes, for the number lemmas: not a digit, `.`, `/` or white space -/
theorem nameText_head (m : Bool) (u : NmUnit) (us : List NmUnit) (rest : Text) (hok : nameOKE u us rest = true) :
    ∃ x post, nameText m u us ++ rest = x :: post ∧ isDigit x = false ∧ x ≠ 46 ∧ x ≠ 47 ∧ isWsC x = false := by
  cases m with
  | true => exact ⟨45, _, rfl, by decide⟩
  | false =>
    cases u with
    | esc ds term => exact ⟨92, ds ++ term.toList ++ (unitsText us ++ rest), by simp [nameText, NmUnit.text],
        by decide⟩
    | plain c =>
      have hc : isNmStart c = true := by
        simp only [nameOKE, Bool.and_eq_true, NmUnit.ok, if_true] at hok
        exact hok.1
      obtain ⟨-, -, h46, -, -, h47, hdig, hws⟩ := nmstart_facts hc
      exact ⟨c, _, rfl, hdig, h46, h47, hws⟩

section
variable (cfg : Cfg) (hfs : cfg.fullsheet = false) (hdc : cfg.doComments = true) (st : St)
include hfs hdc

/-- **HASH with hex escapes.** `#` and a name some of whose characters are written `\` + 1–6 hex digits +
optional white space (as many digits as there are hex digits, up to six; the white space present whenever
white space would otherwise follow; `\r` as terminator not before `\n`), followed by any text that does
not start with a name character or a backslash, is ONE HASH token; its raw text is the lexeme and its
VALUE is the name with every escape replaced by its character. -/
theorem classify_hash_esc (u : NmUnit) (us : List NmUnit) (rest : Text)
    (hok : unitsOK (u :: us) rest = true) (hrest : NameStop rest)
    (hr : st.rest = 35 :: (unitsText (u :: us) ++ rest)) :
    step Gen.tables cfg st =
      some { emit := some ⟨"HASH", 35 :: unitsVal (u :: us), st.line, st.col⟩,
             raw := 35 :: unitsText (u :: us), st := advance st (35 :: unitsText (u :: us)) } := by
  obtain ⟨_, _, _, _, _, _, _, -, -, -, hfind⟩ := gen_esc_layout
  obtain ⟨_, -, -, he, -⟩ := gen_hash_at
  have hok' := hok
  simp only [unitsOK, Bool.and_eq_true] at hok'
  have hu := ms_unit false u _ hok'.1
  simp only [Bool.false_eq_true, if_false] at hu
  have hm : (ms (hashRe escX) (35 :: (unitsText (u :: us) ++ rest))).head? = some rest := by
    unfold hashRe
    rw [ms_seq_single _ _ _ _ ((isTest_cls false [(35, 35)]).pos (by decide) _), unitsText_cons,
      List.append_assoc, ms_seq_single _ _ _ _ hu]
    exact star_units_head us rest hok'.2 hrest
  rw [step_lex_named hfs (35 :: unitsText (u :: us)) rest hr rfl (by decide +kernel) "HASH" (by decide +kernel)
      he hfind rfl hm,
    finish_esc Gen.tables cfg hfs hdc st "HASH" _ _ gen_name_escaped.2.2.1 (by decide +kernel),
    unicodeSub_eq_cssUnescape, cssUnescape_plain 35 _ (by decide), cssUnescape_unitsText _ rest hok]

/-- **IDENT with hex escapes.** An identifier `-?{nmstart}{nmchar}*` some of whose characters are written
as hex escapes (side conditions as for `classify_hash_esc`), starting with `-` or with a plain character
other than `u`/`U`, followed by any text that does not start with a name character, a backslash or `(`,
is ONE IDENT token whose VALUE is the identifier with every escape replaced by its character. -/
theorem classify_ident_esc (m : Bool) (u : NmUnit) (us : List NmUnit) (rest : Text)
    (hok : nameOKE u us rest = true) (hfirst : firstOK m u = true) (hstop : identStop rest = true)
    (hr : st.rest = nameText m u us ++ rest) :
    step Gen.tables cfg st =
      some { emit := some ⟨"IDENT", nameVal m u us, st.line, st.col⟩,
             raw := nameText m u us, st := advance st (nameText m u us) } := by
  obtain ⟨a, b, c, kU, kR, a', kUR, hlay, ha, ha', -⟩ := gen_esc_layout
  obtain ⟨hrest, hpar⟩ := identStop_spec hstop
  have hx : ∃ x post, nameText m u us ++ rest = x :: post ∧ x ≠ 92 ∧ x ≠ 85 ∧ x ≠ 117 ∧ isWsC x = false ∧
      isDigit x = false ∧ Gen.tables.fastChars.contains x = false := by
    cases m with
    | true => exact ⟨45, _, rfl, by decide +kernel⟩
    | false =>
      cases u with
      | esc ds term => simp [firstOK] at hfirst
      | plain c =>
        simp only [firstOK, Bool.false_or, Bool.and_eq_true, bne_iff_ne, ne_eq] at hfirst
        have hc : isNmStart c = true := by
          simp only [nameOKE, Bool.and_eq_true, NmUnit.ok, if_true] at hok
          exact hok.1
        obtain ⟨h92, -, -, -, -, -, hdig, hws⟩ := nmstart_facts hc
        exact ⟨c, _, rfl, h92, hfirst.1, hfirst.2, hws, hdig, not_fast_of_nmchar (by simp [isNmChar, hc])⟩
  obtain ⟨x, post, hxp, h92, h85, h117, hws, hdig, hfast⟩ := hx
  refine (step_lex_none hfs (nameText m u us) rest hr hxp hfast [_, _, _, _]
    ⟨"IDENT", none, identRe escX⟩ hlay (fun q hq => matchProd_none_of_ms_nil q _ _ ?_) rfl
    (ident_units_head m u us rest hok hrest) (Or.inr hpar)).trans ?_
  · revert q hq
    rw [hxp]
    simp only [List.forall_mem_cons, List.not_mem_nil, false_imp_iff, implies_true, and_true]
    exact ⟨test_ws.seq_stop _ _ (head_cons hws), ms_seq_nil_left _ _ _ (letter_nil a ha x post h92 h85 h117),
      ratio_nil_of_not_digit kR _ (head_cons ⟨hdig, hws⟩),
      ms_seq_nil_left _ _ _ (letter_nil a' ha' x post h92 h85 h117)⟩
  · rw [finish_esc Gen.tables cfg hfs hdc st "IDENT" _ _ gen_name_escaped.1 (by decide +kernel),
      unicodeSub_eq_cssUnescape, cssUnescape_name m u us rest hok]

theorem dimension_esc_core (num : Text) (m : Bool) (u : NmUnit) (us : List NmUnit) (rest : Text) (c : Nat) (s : Text)
    (hnb : NoBs num) (hok : nameOKE u us rest = true) (hrest : NameStop rest)
    (hcs : num ++ (nameText m u us ++ rest) = c :: s)
    (hfast : Gen.tables.fastChars.contains c = false) (hr : st.rest = num ++ (nameText m u us ++ rest))
    (hres : NumRes (ms numRe (num ++ (nameText m u us ++ rest))) (nameText m u us ++ rest))
    (hpre : ∀ kR, ∀ q ∈ Gen.prods.take 2 ++ ⟨"RATIO", some 40, ratioRe kR⟩ :: (Gen.prods.drop 3).take 3,
      matchProd q st.prev (c :: s) = none) :
    step Gen.tables cfg st =
      some { emit := some ⟨"DIMENSION", num ++ nameVal m u us, st.line, st.col⟩,
             raw := num ++ nameText m u us, st := advance st (num ++ nameText m u us) } := by
  obtain ⟨kR, hlay⟩ : ∃ kR, Gen.prods = (Gen.prods.take 2 ++ ⟨"RATIO", some 40, ratioRe kR⟩ :: (Gen.prods.drop 3).take 3) ++
      ⟨"DIMENSION", none, .seq numRe (identRe escX)⟩ :: Gen.prods.drop 7 := ⟨_, rfl⟩
  rw [← List.append_assoc] at hr hcs hres
  rw [step_lex_none hfs (num ++ nameText m u us) rest hr hcs hfast _
      ⟨"DIMENSION", none, .seq numRe (identRe escX)⟩ hlay (hcs ▸ hpre kR) rfl
      (num_then_head _ _ rest hres (identRe escX) (ident_units_head m u us rest hok hrest)) (Or.inl rfl),
    finish_esc Gen.tables cfg hfs hdc st "DIMENSION" _ _ gen_num_escaped.2.2 (by decide +kernel),
    unicodeSub_eq_cssUnescape, cssUnescape_nobs_prefix num _ hnb, cssUnescape_name m u us rest hok]

/-- **DIMENSION with hex escapes in the unit.** A numeric lexeme followed by a unit `-?{nmstart}{nmchar}*`
some of whose characters are written as hex escapes (side conditions as for `classify_hash_esc`; the unit
may start with an escape) and then any text that does not start with a name character or a backslash
is ONE DIMENSION token whose VALUE is the number followed by the unit with every escape replaced by its
character. -/
theorem classify_dimension_esc (num : Text) (m : Bool) (u : NmUnit) (us : List NmUnit) (rest : Text)
    (hnum : NumLex num) (hok : nameOKE u us rest = true) (hrest : NameStop rest)
    (hr : st.rest = num ++ (nameText m u us ++ rest)) :
    step Gen.tables cfg st =
      some { emit := some ⟨"DIMENSION", num ++ nameVal m u us, st.line, st.col⟩,
             raw := num ++ nameText m u us, st := advance st (num ++ nameText m u us) } := by
  obtain ⟨c, s, hcs, hc⟩ := hnum.start (nameText m u us ++ rest)
  obtain ⟨x, post, hxp, h1, h2, h3, h4⟩ := nameText_head m u us rest hok
  have := hnum.facts_of_head st.prev x post h1 h2 h3 h4
  rw [← hxp] at this
  exact dimension_esc_core cfg hfs hdc st num m u us rest c s hnum.nobs hok hrest hcs
    (gen_numStarts_not_fast c hc) hr this.1 (unsigned_prefix c s st.prev hc (hcs ▸ this.2))

theorem classify_dimension_esc_signed (x : Nat) (hx : isSign x = true) (num : Text) (m : Bool) (u : NmUnit)
    (us : List NmUnit) (rest : Text) (hnum : NumLex num) (hok : nameOKE u us rest = true) (hrest : NameStop rest)
    (hr : st.rest = x :: (num ++ (nameText m u us ++ rest))) :
    step Gen.tables cfg st =
      some { emit := some ⟨"DIMENSION", x :: (num ++ nameVal m u us), st.line, st.col⟩,
             raw := x :: (num ++ nameText m u us), st := advance st (x :: (num ++ nameText m u us)) } := by
  obtain ⟨y, post, hyp, h1, h2, -⟩ := nameText_head m u us rest hok
  have hres := hnum.res_signed_of_head x hx y post h1 h2
  rw [← hyp] at hres
  exact dimension_esc_core cfg hfs hdc st (x :: num) m u us rest x (num ++ (nameText m u us ++ rest))
    (nobs_signed hnum hx) hok hrest rfl (sign_off_fast hx) hr hres (signed_prefix x hx num _ hnum st.prev)

end

/-! the side conditions on the escapes are needed (kernel-checked): in `a\41B` the `B` is a third hex digit
(U+041B), in `a\41 ` the space belongs to the escape, `\75 rl(x)` is a URI -/
example : tokOf (step Gen.tables ⟨false, true⟩ ⟨none, [97, 92, 52, 49, 66, 59], 1, 1⟩)
    = some ("IDENT", [97, 0x41B]) := by decide +kernel
example : (step Gen.tables ⟨false, true⟩ ⟨none, [97, 92, 52, 49, 32, 59], 1, 1⟩).map (·.raw)
    = some [97, 92, 52, 49, 32] := by decide +kernel
example : tokOf (step Gen.tables ⟨false, true⟩ ⟨none, [92, 55, 53, 32, 114, 108, 40, 120, 41], 1, 1⟩)
    = some ("URI", [117, 114, 108, 40, 120, 41]) := by decide +kernel

/-! non-vacuity: `a\3a b;` is the IDENT `a:b`, `-\31 0 ` the IDENT `-10`, `#\31 23{` the HASH `#123`,
`1.5\65m;` the DIMENSION `1.5em`, and an escape beyond U+10FFFF stays as written -/
example : step Gen.tables ⟨false, true⟩ ⟨none, [97, 92, 51, 97, 32, 98, 59], 1, 1⟩ =
    some { emit := some ⟨"IDENT", [97, 58, 98], 1, 1⟩, raw := [97, 92, 51, 97, 32, 98],
           st := advance ⟨none, [97, 92, 51, 97, 32, 98, 59], 1, 1⟩ [97, 92, 51, 97, 32, 98] } :=
  classify_ident_esc ⟨false, true⟩ rfl rfl _ false (.plain 97) [.esc [51, 97] (some 32), .plain 98] [59]
    (by decide +kernel) (by decide +kernel) (by decide +kernel) rfl
example : step Gen.tables ⟨false, true⟩ ⟨none, [45, 92, 51, 49, 32, 48, 32], 1, 1⟩ =
    some { emit := some ⟨"IDENT", [45, 49, 48], 1, 1⟩, raw := [45, 92, 51, 49, 32, 48],
           st := advance ⟨none, [45, 92, 51, 49, 32, 48, 32], 1, 1⟩ [45, 92, 51, 49, 32, 48] } :=
  classify_ident_esc ⟨false, true⟩ rfl rfl _ true (.esc [51, 49] (some 32)) [.plain 48] [32]
    (by decide +kernel) (by decide +kernel) (by decide +kernel) rfl
example : step Gen.tables ⟨false, true⟩ ⟨none, [35, 92, 51, 49, 32, 50, 51, 123], 1, 1⟩ =
    some { emit := some ⟨"HASH", [35, 49, 50, 51], 1, 1⟩, raw := [35, 92, 51, 49, 32, 50, 51],
           st := advance ⟨none, [35, 92, 51, 49, 32, 50, 51, 123], 1, 1⟩ [35, 92, 51, 49, 32, 50, 51] } :=
  classify_hash_esc ⟨false, true⟩ rfl rfl _ (.esc [51, 49] (some 32)) [.plain 50, .plain 51] [123]
    (by decide +kernel) (by decide +kernel) rfl
example : step Gen.tables ⟨false, true⟩ ⟨none, [49, 46, 53, 92, 54, 53, 109, 59], 1, 1⟩ =
    some { emit := some ⟨"DIMENSION", [49, 46, 53, 101, 109], 1, 1⟩, raw := [49, 46, 53, 92, 54, 53, 109],
           st := advance ⟨none, [49, 46, 53, 92, 54, 53, 109, 59], 1, 1⟩ [49, 46, 53, 92, 54, 53, 109] } :=
  classify_dimension_esc ⟨false, true⟩ rfl rfl _ [49, 46, 53] false (.esc [54, 53] none) [.plain 109] [59]
    (isNumLex_spec (by decide +kernel)) (by decide +kernel) (by decide +kernel) rfl
example : step Gen.tables ⟨false, true⟩ ⟨none, [120, 92, 49, 49, 48, 48, 48, 48, 59], 1, 1⟩ =
    some { emit := some ⟨"IDENT", [120, 92, 49, 49, 48, 48, 48, 48], 1, 1⟩, raw := [120, 92, 49, 49, 48, 48, 48, 48],
           st := advance ⟨none, [120, 92, 49, 49, 48, 48, 48, 48, 59], 1, 1⟩ [120, 92, 49, 49, 48, 48, 48, 48] } :=
  classify_ident_esc ⟨false, true⟩ rfl rfl _ false (.plain 120) [.esc [49, 49, 48, 48, 48, 48] none] [59]
    (by decide +kernel) (by decide +kernel) (by decide +kernel) rfl

/-! ## what a first character can start -/

/-- for every text and every state outside full-sheet mode, the token produced at `c :: s` (off the
fast path) comes from a production of the table that can start with `c` -/
theorem first_char_sound (cfg : Cfg) (hfs : cfg.fullsheet = false) (st : St) (c : Nat) (s : Text)
    (hr : st.rest = c :: s) (hfast : Gen.tables.fastChars.contains c = false) (r : Res)
    (h : step Gen.tables cfg st = some r) :
    ∃ p ∈ Gen.prods, canStart p.re c = true ∧
      ∃ rem, r = finish Gen.tables cfg st p.name (consumed (c :: s) rem) rem := by
  unfold step at h
  rw [hr] at h
  simp only [hfast, Bool.false_eq_true, if_false] at h
  exact tryProds_first_char Gen.tables cfg hfs st c s hr Gen.prods r h

/-- which token types a text starting with a digit can get: only the numeric ones (and RATIO) -/
theorem digit_types : ∀ c ∈ [48, 49, 50, 51, 52, 53, 54, 55, 56, 57],
    (Gen.prods.filter (fun p => canStart p.re c)).map (·.name)
      = ["RATIO", "DIMENSION", "PERCENTAGE", "NUMBER", "CHAR"] := by decide +kernel

/-- an ASCII letter other than u/U can only start IDENT, FUNCTION or CHAR -/
theorem letter_types : ∀ c ∈ [97, 98, 120, 122, 65, 90, 95],
    (Gen.prods.filter (fun p => canStart p.re c)).map (·.name) = ["IDENT", "FUNCTION", "CHAR"] := by decide +kernel

/-- `u`/`U` additionally URI and UNICODE-RANGE; `@` only ATKEYWORD; `#` only HASH; quotes only STRING/INVALID -/
theorem special_types :
    (Gen.prods.filter (fun p => canStart p.re 117)).map (·.name) = ["URI", "UNICODE-RANGE", "IDENT", "FUNCTION", "CHAR"] ∧
    (Gen.prods.filter (fun p => canStart p.re 64)).map (·.name) = ["ATKEYWORD", "CHAR"] ∧
    (Gen.prods.filter (fun p => canStart p.re 35)).map (·.name) = ["HASH", "CHAR"] ∧
    (Gen.prods.filter (fun p => canStart p.re 34)).map (·.name) = ["STRING", "INVALID"] ∧
    (Gen.prods.filter (fun p => canStart p.re 39)).map (·.name) = ["STRING", "INVALID"] := by decide +kernel

/-! ## composition: a sequence of lexemes is returned as exactly that sequence of tokens -/

/-- the lexeme classes of the per-lexeme theorems above.  Numeric lexemes carry an optional sign
(`some 43` / `some 45`) and the unsigned numeral; escape-free names carry the optional leading `-` (`m`),
the name-start character and the remaining name characters, as in `identLex`; names with hex escapes
(`identE`, `hashE`, `dimensionE`) carry their characters as written (`NmUnit`: plain, or `\` digits
terminator). -/
inductive Lexeme where
  | ws (c : Nat) (run : Text)
  | fast (c : Nat)
  | delim (c : Nat)
  | cdelim (c : Nat)
  | includes | dashmatch | prefixmatch | suffixmatch | substringmatch | cdo | cdc
  | number (sign : Option Nat) (num : Text)
  | percentage (sign : Option Nat) (num : Text)
  | dimension (sign : Option Nat) (num : Text) (m : Bool) (u : Nat) (us : Text)
  | ident (m : Bool) (u : Nat) (us : Text)
  | function (m : Bool) (u : Nat) (us : Text)
  | hash (n : Nat) (ns : Text)
  | atkeyword (m : Bool) (u : Nat) (us : Text)
  | comment (body : Text)
  | string (q : Nat) (body : Text)
  | identE (m : Bool) (u : NmUnit) (us : List NmUnit)
  | hashE (u : NmUnit) (us : List NmUnit)
  | dimensionE (sign : Option Nat) (num : Text) (m : Bool) (u : NmUnit) (us : List NmUnit)
  deriving Repr, DecidableEq

def signText : Option Nat → Text
  | none => []
  | some x => [x]

def signOK : Option Nat → Bool
  | none => true
  | some x => isSign x

def nameOK (u : Nat) (us : Text) : Bool := isNmStart u && us.all isNmChar

namespace Lexeme

def render : Lexeme → Text
  | ws c run => c :: run
  | fast c => [c]
  | delim c => [c]
  | cdelim c => [c]
  | includes => [126, 61]
  | dashmatch => [124, 61]
  | prefixmatch => [94, 61]
  | suffixmatch => [36, 61]
  | substringmatch => [42, 61]
  | cdo => [60, 33, 45, 45]
  | cdc => [45, 45, 62]
  | number s num => signText s ++ num
  | percentage s num => signText s ++ (num ++ [37])
  | dimension s num m u us => signText s ++ (num ++ identLex m u us)
  | ident m u us => identLex m u us
  | function m u us => identLex m u us ++ [40]
  | hash n ns => 35 :: n :: ns
  | atkeyword m u us => 64 :: identLex m u us
  | comment body => commentLex body
  | string q body => q :: (body ++ [q])
  | identE m u us => nameText m u us
  | hashE u us => 35 :: unitsText (u :: us)
  | dimensionE s num m u us => signText s ++ (num ++ nameText m u us)

def typ : Lexeme → String
  | ws _ _ => "S"
  | fast _ => "CHAR"
  | delim _ => "CHAR"
  | cdelim _ => "CHAR"
  | includes => "INCLUDES"
  | dashmatch => "DASHMATCH"
  | prefixmatch => "PREFIXMATCH"
  | suffixmatch => "SUFFIXMATCH"
  | substringmatch => "SUBSTRINGMATCH"
  | cdo => "CDO"
  | cdc => "CDC"
  | number _ _ => "NUMBER"
  | percentage _ _ => "PERCENTAGE"
  | dimension _ _ _ _ _ => "DIMENSION"
  | ident _ _ _ => "IDENT"
  | function _ _ _ => "FUNCTION"
  | hash _ _ => "HASH"
  | atkeyword m u us => (lookupKw Gen.atkeywords (lowerT (64 :: identLex m u us))).getD "ATKEYWORD"
  | comment _ => "COMMENT"
  | string _ _ => "STRING"
  | identE _ _ _ => "IDENT"
  | hashE _ _ => "HASH"
  | dimensionE _ _ _ _ _ => "DIMENSION"

/-- the token value: the lexeme itself (a comment's goes through the `\hex` rewrite) -/
def value : Lexeme → Text
  | comment body => unicodeSub Gen.tables (commentLex body)
  | identE m u us => nameVal m u us
  | hashE u us => 35 :: unitsVal (u :: us)
  | dimensionE s num m u us => signText s ++ (num ++ nameVal m u us)
  | l => l.render

def expected (l : Lexeme) : String × Text := (l.typ, l.value)

/-- the lexeme is generated by the token grammar (the hypotheses of its per-lexeme theorem that speak
about the lexeme alone) -/
def wf : Lexeme → Bool
  | ws c run => isWs c && run.all isWs
  | fast c => Gen.tables.fastChars.contains c
  | delim c => solo Gen.tables c
  | cdelim c => ctxDelims.contains c
  | number s num => signOK s && isNumLex num
  | percentage s num => signOK s && isNumLex num
  | dimension s num _ u us => signOK s && isNumLex num && nameOK u us
  | ident _ u us => nameOK u us
  | function m u us => nameOK u us && lowerT (identLex m u us) != [117, 114, 108] &&
      lowerT (identLex m u us) != [97, 110, 100]
  | hash n ns => isNmChar n && ns.all isNmChar
  | atkeyword _ u us => nameOK u us
  | comment body => noClose body
  | string q body => (q == 34 || q == 39) && body.all (isStrChar q)
  | identE m u us => firstOK m u && nameOKE u us []
  | hashE u us => unitsOK (u :: us) []
  | dimensionE s num _ u us => signOK s && isNumLex num && nameOKE u us []
  | _ => true

/-- the *local* "cannot merge" condition: what the text after the lexeme must (not) start with.  It
looks at no more than the first two characters of `rest`. -/
def stopLocal : Lexeme → Text → Bool
  | ws _ _, rest => (match rest with | d :: _ => !isWs d | [] => true)
  | cdelim c, rest => ctxStop c rest
  | number _ num, rest => numStop rest && (num.contains 46 || !dotDigit rest)
  | dimension _ _ _ _ _, rest => nameStop rest
  | ident m u us, rest => identStop rest && !(lowerT (identLex m u us) == [117] && rest.head? == some 43)
  | hash _ _, rest => nameStop rest
  | atkeyword m u us, rest => nameStop rest && !(64 :: identLex m u us == atCharset && rest.head? == some 32)
  | identE _ u us, rest => nameOKE u us rest && identStop rest
  | hashE u us, rest => unitsOK (u :: us) rest && nameStop rest
  | dimensionE _ _ _ u us, rest => nameOKE u us rest && nameStop rest
  | _, _ => true

/-- the one non-local condition, read off RATIO `(?<!\()\s*[0-9]+\s*/…`, which precedes NUMBER in the
table: an *unsigned integer* must come right after `(`, or the text after it must not continue, after
optional whitespace, with `/` -/
def ratioOK (prev : Option Nat) : Lexeme → Text → Bool
  | number none num, rest => num.contains 46 || prev == some 40 || noSlash rest
  | _, _ => true

end Lexeme

open Lexeme

theorem nameOK_spec {u : Nat} {us : Text} (h : nameOK u us = true) :
    isNmStart u = true ∧ ∀ x ∈ us, isNmChar x = true := by
  simpa [nameOK] using h

theorem signOK_some {x : Nat} (h : signOK (some x) = true) : isSign x = true := h

theorem fast_ne_nl {c : Nat} (h : Gen.tables.fastChars.contains c = true) : c ≠ 10 := by
  intro h10; subst h10; revert h; decide

theorem advance_fast (st : St) (c : Nat) (s : Text) (hr : st.rest = c :: s) (hc : c ≠ 10) :
    ({ prev := some c, rest := s, line := st.line, col := st.col + 1 } : St) = advance st [c] := by
  have : List.count 10 [c] = 0 := by simp [List.count_cons]; omega
  simp [advance, countNl, this, hr]

/-- **one lexeme, any state.**  The per-lexeme theorems in one statement: a well-formed lexeme followed
by a text satisfying its stop conditions is one token with the expected type and value, its raw text
is the lexeme, and the tokenizer advances over it. -/
theorem step_lexeme (cfg : Cfg) (hfs : cfg.fullsheet = false) (hdc : cfg.doComments = true) (st : St)
    (a : Lexeme) (rest : Text) (hwf : a.wf = true) (hs : a.stopLocal rest = true)
    (hq : ratioOK st.prev a rest = true) (hr : st.rest = a.render ++ rest) :
    step Gen.tables cfg st =
      some { emit := some ⟨a.typ, a.value, st.line, st.col⟩, raw := a.render, st := advance st a.render } := by
  cases a with
  | ws c run =>
    simp only [wf, Bool.and_eq_true, List.all_eq_true] at hwf
    exact classify_ws cfg hfs hdc st c run rest hwf.1 hwf.2
      (forall_head fun x r h => by subst h; simpa [stopLocal] using hs) hr
  | fast c =>
    rw [classify_fast cfg st c rest hr hwf, advance_fast st c rest hr (fast_ne_nl hwf)]
    rfl
  | cdelim c => exact classify_cdelim cfg hfs hdc st c rest hs hr
  | delim c => exact classify_solo Gen.tables gen_CHAR_not_escaped cfg hfs hdc st c rest hr hwf
  | includes => exact classify_includes cfg hfs hdc st rest hr
  | dashmatch => exact classify_dashmatch cfg hfs hdc st rest hr
  | prefixmatch => exact classify_prefixmatch cfg hfs hdc st rest hr
  | suffixmatch => exact classify_suffixmatch cfg hfs hdc st rest hr
  | substringmatch => exact classify_substringmatch cfg hfs hdc st rest hr
  | cdo => exact classify_cdo cfg hfs hdc st rest hr
  | cdc => exact classify_cdc cfg hfs hdc st rest hr
  | number s num =>
    simp only [wf, Bool.and_eq_true] at hwf
    have hnum := isNumLex_spec hwf.2
    simp only [stopLocal, Bool.and_eq_true, Bool.or_eq_true, List.contains_iff_mem, Bool.not_eq_true'] at hs
    cases s with
    | none =>
      simp only [ratioOK, Bool.or_eq_true, List.contains_iff_mem, beq_iff_eq] at hq
      exact classify_number cfg hfs hdc st num rest hnum hs.1
        (Decidable.or_iff_not_imp_left.2 fun h46 => ⟨hs.2.resolve_left h46, hq.imp_left (·.resolve_left h46)⟩) hr
    | some x => exact classify_number_signed cfg hfs hdc st x hwf.1 num rest hnum hs.1 hs.2 hr
  | percentage s num =>
    simp only [wf, Bool.and_eq_true] at hwf
    have hnum := isNumLex_spec hwf.2
    cases s with
    | none => exact classify_percentage cfg hfs hdc st num rest hnum (by simpa [render, signText] using hr)
    | some x =>
      exact classify_percentage_signed cfg hfs hdc st x hwf.1 num rest hnum (by simpa [render, signText] using hr)
  | dimension s num m u us =>
    simp only [wf, Bool.and_eq_true] at hwf
    have hnum := isNumLex_spec hwf.1.2
    obtain ⟨hu, hus⟩ := nameOK_spec hwf.2
    have hst := nameStop_spec hs
    cases s with
    | none =>
      exact classify_dimension cfg hfs hdc st num m u us rest hnum hu hus hst (by simpa [render, signText] using hr)
    | some x =>
      exact classify_dimension_signed cfg hfs hdc st x hwf.1.1 num m u us rest hnum hu hus hst
        (by simpa [render, signText] using hr)
  | ident m u us =>
    obtain ⟨hu, hus⟩ := nameOK_spec hwf
    simp only [stopLocal, Bool.and_eq_true, Bool.not_eq_true'] at hs
    exact classify_ident cfg hfs hdc st m u us rest hu hus hs.1 (fun h1 h2 => by simp [h1, h2] at hs) hr
  | function m u us =>
    simp only [wf, Bool.and_eq_true, bne_iff_ne, ne_eq] at hwf
    obtain ⟨hu, hus⟩ := nameOK_spec hwf.1.1
    exact classify_function cfg hfs hdc st m u us rest hu hus hwf.1.2 hwf.2 (by simpa [render] using hr)
  | hash n ns =>
    simp only [wf, Bool.and_eq_true, List.all_eq_true] at hwf
    exact classify_hash cfg hfs hdc st n ns rest hwf.1 hwf.2 (nameStop_spec hs) hr
  | atkeyword m u us =>
    obtain ⟨hu, hus⟩ := nameOK_spec hwf
    simp only [stopLocal, Bool.and_eq_true, Bool.not_eq_true'] at hs
    exact classify_atkeyword cfg hfs hdc st m u us rest hu hus (nameStop_spec hs.1)
      (fun h1 h2 => by simp [h1, h2] at hs) hr
  | comment body => exact classify_comment cfg hfs hdc st body rest hwf hr
  | string q body =>
    simp only [wf, Bool.and_eq_true, Bool.or_eq_true, beq_iff_eq, List.all_eq_true] at hwf
    exact classify_string cfg hfs hdc st q hwf.1 body rest hwf.2 (by simpa [render] using hr)
  | identE m u us =>
    simp only [wf, Bool.and_eq_true] at hwf
    simp only [stopLocal, Bool.and_eq_true] at hs
    exact classify_ident_esc cfg hfs hdc st m u us rest hs.1 hwf.1 hs.2 hr
  | hashE u us =>
    simp only [stopLocal, Bool.and_eq_true] at hs
    exact classify_hash_esc cfg hfs hdc st u us rest hs.1 (nameStop_spec hs.2) hr
  | dimensionE s num m u us =>
    simp only [wf, Bool.and_eq_true] at hwf
    simp only [stopLocal, Bool.and_eq_true] at hs
    have hnum := isNumLex_spec hwf.1.2
    cases s with
    | none =>
      exact classify_dimension_esc cfg hfs hdc st num m u us rest hnum hs.1 (nameStop_spec hs.2)
        (by simpa [render, signText] using hr)
    | some x =>
      exact classify_dimension_esc_signed cfg hfs hdc st x hwf.1.1 num m u us rest hnum hs.1 (nameStop_spec hs.2)
        (by simpa [render, signText] using hr)

/-- every lexeme of the list is well-formed and satisfies its stop conditions against the *whole*
remaining text, the previous character being threaded through -/
def wellSpaced : Option Nat → List Lexeme → Bool
  | _, [] => true
  | prev, a :: ls => a.wf && a.stopLocal (ls.flatMap render) && ratioOK prev a (ls.flatMap render) &&
      wellSpaced a.render.getLast? ls

def LexOK (prev : Option Nat) (a : Lexeme) (rest : Text) : Prop :=
  a.wf = true ∧ a.stopLocal rest = true ∧ ratioOK prev a rest = true

theorem wellSpaced_spaced : ∀ (ls : List Lexeme) (prev : Option Nat), wellSpaced prev ls = true →
    Spaced render LexOK prev ls := by
  intro ls
  induction ls with
  | nil => intro _ _; trivial
  | cons a ls ih =>
    intro prev h
    simp only [wellSpaced, Bool.and_eq_true] at h
    exact ⟨⟨h.1.1.1, h.1.1.2, h.1.2⟩, ih _ h.2⟩

/-- **the loop on a lexeme sequence**, from any state: the items are exactly the expected tokens (type,
value) with the lexemes as raw texts, and the loop ends because the text is used up -/
theorem classify_loop (cfg : Cfg) (hfs : cfg.fullsheet = false) (hdc : cfg.doComments = true)
    (ls : List Lexeme) (st : St) (fuel : Nat) (hr : st.rest = ls.flatMap render)
    (hw : wellSpaced st.prev ls = true) (hf : st.rest.length ≤ fuel) :
    (loop Gen.tables cfg fuel st).1.map itemView = ls.map (fun a => (some a.expected, a.render)) ∧
      (loop Gen.tables cfg fuel st).2.2 = .done := by
  refine loop_spaced render LexOK Gen.tables cfg expected ?_ ls fuel st hr (wellSpaced_spaced ls _ hw) hf
  intro st a rest ⟨hwf, hs, hq⟩ hrest
  have hstep := step_lexeme cfg hfs hdc st a rest hwf hs hq hrest
  have hne := (step_spec Gen.tables C08.gen_nonNullable C08.gen_fastNoNl cfg st _ hstep).raw_ne
  refine ⟨hne, _, hstep, rfl, rfl, rfl, ?_⟩
  simp [advance, hrest]

theorem numLex_shape {num : Text} (h : NumLex num) :
    ∃ c r, num = c :: r ∧ (r = [] → isDigit c = true) ∧ c ∈ numStarts := by
  cases h with
  | int c run hc hrun => exact ⟨c, run, rfl, fun _ => hc, numStarts_of_digit hc⟩
  | dec ip f fs hip hf hfs =>
    cases ip with
    | nil => exact ⟨46, f :: fs, rfl, nofun, by simp [numStarts]⟩
    | cons i is =>
      exact ⟨i, is ++ 46 :: f :: fs, rfl, (by intro h; simp at h), numStarts_of_digit (hip i List.mem_cons_self)⟩

theorem identLex_shape (m : Bool) (u : Nat) (us : Text) (hu : isNmStart u = true) :
    ∃ c r, identLex m u us = c :: r ∧ (r = [] → c ≠ 45 ∧ c ≠ 46) ∧ c ≠ 64 := by
  have := isNmStart_ge hu
  cases m with
  | true => exact ⟨45, u :: us, rfl, nofun, by decide⟩
  | false => exact ⟨u, us, rfl, fun _ => by omega, by omega⟩

theorem ne_of_table {P : Nat → Bool} {c : Nat} (hc : P c = true) (hP : ∀ x ∈ [45, 46, 64], P x = false) :
    (c ≠ 45 ∧ c ≠ 46) ∧ c ≠ 64 := by
  refine ⟨⟨?_, ?_⟩, ?_⟩ <;>
  · rintro rfl
    rw [hP _ (by simp)] at hc
    cases hc

/-- a rendered well-formed lexeme is not empty; it is the single character `-` or `.` only if it is that
delimiter (otherwise the first two characters of a text that starts with it are its own, or its one
character decides alone); and it starts with `@` only if it is an at-keyword or the delimiter `@` -/
theorem render_shape (b : Lexeme) (hb : b.wf = true) :
    ∃ c r, b.render = c :: r ∧ (r = [] → (c ≠ 45 ∧ c ≠ 46) ∨ b = .cdelim c) ∧
      (c = 64 → (∃ m u us, b = .atkeyword m u us) ∨ b = .cdelim 64) := by
  -- apart from the contextual delimiters and the at-keywords, no lexeme starts with `@`
  suffices h : ((∃ c, b = .cdelim c) ∨ ∃ m u us, b = .atkeyword m u us) ∨
      ∃ c r, b.render = c :: r ∧ c ≠ 64 ∧ (r = [] → c ≠ 45 ∧ c ≠ 46) by
    rcases h with (⟨c, rfl⟩ | ⟨m, u, us, rfl⟩) | ⟨c, r, h1, h2, h3⟩
    · exact ⟨c, [], rfl, fun _ => Or.inr rfl, fun h => Or.inr (h ▸ rfl)⟩
    · obtain ⟨d, r', hd, -, -⟩ := identLex_shape m u us (nameOK_spec hb).1
      exact ⟨64, identLex m u us, rfl, (by rw [hd]; nofun), fun _ => Or.inl ⟨m, u, us, rfl⟩⟩
    · exact ⟨c, r, h1, fun h => Or.inl (h3 h), fun h => absurd h h2⟩
  by_cases hsp : (∃ c, b = .cdelim c) ∨ ∃ m u us, b = .atkeyword m u us
  · exact Or.inl hsp
  right
  have hsign : ∀ x, signOK (some x) = true → x ≠ 64 := by intro x hx h; subst h; revert hx; decide
  have hstart : ∀ x, x ∈ numStarts → x ≠ 64 := by intro x hx h; subst h; revert hx; decide
  have hdig : ∀ x, isDigit x = true → x ≠ 45 ∧ x ≠ 46 := fun x hx => by have := isDigit_iff.mp hx; omega
  cases b with
  | cdelim c => exact absurd (Or.inl ⟨c, rfl⟩) hsp
  | atkeyword m u us => exact absurd (Or.inr ⟨m, u, us, rfl⟩) hsp
  | ws c run =>
    simp only [wf, Bool.and_eq_true] at hb
    obtain ⟨h1, h2⟩ := ne_of_table hb.1 (by decide)
    exact ⟨c, run, rfl, h2, fun _ => h1⟩
  | fast c =>
    simp only [wf] at hb
    obtain ⟨h1, h2⟩ := ne_of_table hb (by decide +kernel)
    exact ⟨c, [], rfl, h2, fun _ => h1⟩
  | delim c =>
    simp only [wf] at hb
    obtain ⟨h1, h2⟩ := ne_of_table hb (by decide +kernel)
    exact ⟨c, [], rfl, h2, fun _ => h1⟩
  | includes => exact ⟨_, _, rfl, by decide, nofun⟩
  | dashmatch => exact ⟨_, _, rfl, by decide, nofun⟩
  | prefixmatch => exact ⟨_, _, rfl, by decide, nofun⟩
  | suffixmatch => exact ⟨_, _, rfl, by decide, nofun⟩
  | substringmatch => exact ⟨_, _, rfl, by decide, nofun⟩
  | cdo => exact ⟨_, _, rfl, by decide, nofun⟩
  | cdc => exact ⟨_, _, rfl, by decide, nofun⟩
  | hash n ns => exact ⟨_, _, rfl, by decide, nofun⟩
  | comment body => exact ⟨_, _, rfl, by decide, nofun⟩
  | number s num =>
    simp only [wf, Bool.and_eq_true] at hb
    obtain ⟨c, r, rfl, h1, h2⟩ := numLex_shape (isNumLex_spec hb.2)
    cases s with
    | none => exact ⟨c, r, rfl, hstart c h2, fun h => hdig c (h1 h)⟩
    | some x => exact ⟨x, c :: r, rfl, hsign x hb.1, nofun⟩
  | percentage s num =>
    simp only [wf, Bool.and_eq_true] at hb
    obtain ⟨c, r, rfl, -, h2⟩ := numLex_shape (isNumLex_spec hb.2)
    cases s with
    | none => exact ⟨c, r ++ [37], rfl, hstart c h2, by simp⟩
    | some x => exact ⟨x, c :: r ++ [37], rfl, hsign x hb.1, nofun⟩
  | dimension s num m u us =>
    simp only [wf, Bool.and_eq_true] at hb
    obtain ⟨c, r, rfl, -, h2⟩ := numLex_shape (isNumLex_spec hb.1.2)
    obtain ⟨d, r', hd, -, -⟩ := identLex_shape m u us (nameOK_spec hb.2).1
    cases s with
    | none => exact ⟨c, r ++ identLex m u us, rfl, hstart c h2, by simp [hd]⟩
    | some x => exact ⟨x, c :: r ++ identLex m u us, rfl, hsign x hb.1.1, nofun⟩
  | ident m u us =>
    obtain ⟨d, r', hd, h1, h2⟩ := identLex_shape m u us (nameOK_spec hb).1
    exact ⟨d, r', hd, h2, h1⟩
  | function m u us =>
    simp only [wf, Bool.and_eq_true] at hb
    obtain ⟨d, r', hd, -, h2⟩ := identLex_shape m u us (nameOK_spec hb.1.1).1
    exact ⟨d, r' ++ [40], by simp [render, hd], h2, by simp⟩
  | string q body =>
    simp only [wf, Bool.and_eq_true, Bool.or_eq_true, beq_iff_eq] at hb
    exact ⟨q, body ++ [q], rfl, by omega, by simp⟩
  | identE m u us =>
    simp only [wf, Bool.and_eq_true, nameOKE] at hb
    obtain ⟨x, r, hx, h64, h45, h46⟩ := unit_text_cons true u _ hb.2.1
    cases m with
    | true => exact ⟨45, u.text ++ unitsText us, rfl, by decide, by simp [hx]⟩
    | false =>
      refine ⟨x, r ++ unitsText us, by simp [render, nameText, hx], h64, fun hr => ?_⟩
      have hr' : r = [] := (List.append_eq_nil_iff.mp hr).1
      exact ⟨(h45 hr').resolve_right nofun, h46 hr'⟩
  | hashE u us =>
    simp only [wf, unitsOK, Bool.and_eq_true] at hb
    obtain ⟨x, r', hx, -, -, -⟩ := unit_text_cons false u _ hb.1
    exact ⟨35, unitsText (u :: us), rfl, by decide, by simp [unitsText_cons, hx]⟩
  | dimensionE s num m u us =>
    simp only [wf, Bool.and_eq_true, nameOKE] at hb
    obtain ⟨c, r, rfl, -, h2⟩ := numLex_shape (isNumLex_spec hb.1.2)
    obtain ⟨x, r', hx, -, -, -⟩ := unit_text_cons true u _ hb.2.1
    cases s with
    | none => exact ⟨c, r ++ nameText m u us, rfl, hstart c h2, by cases m <;> simp [nameText, hx]⟩
    | some y => exact ⟨y, c :: r ++ nameText m u us, rfl, hsign y hb.1.1, nofun⟩

/-- `numStop` and `dotDigit` look at a second character only after `-` resp. `.`: on a text that is not the
single character `-` or `.`, what follows it does not matter -/
theorem stop_stable (c : Nat) (r more : Text) (h : r = [] → c ≠ 45 ∧ c ≠ 46) :
    numStop (c :: r ++ more) = numStop (c :: r) ∧ dotDigit (c :: r ++ more) = dotDigit (c :: r) := by
  have hdd : c ≠ 46 → ∀ t, dotDigit (c :: t) = false := by
    intro h46 t
    unfold dotDigit
    split
    · rename_i heq; simp only [List.cons.injEq] at heq; exact absurd heq.1 h46
    · rfl
  cases r with
  | nil =>
    obtain ⟨h1, h2⟩ := h rfl
    exact ⟨by simp [numStop, identStart, h1, nameStart], by rw [List.cons_append, hdd h2, hdd h2]⟩
  | cons d r' =>
    refine ⟨?_, ?_⟩
    · by_cases h45 : c = 45
      · subst h45; simp [numStop, identStart, nameStart]
      · simp [numStop, identStart, nameStart, h45]
    · by_cases h46 : c = 46
      · subst h46; rfl
      · rw [List.cons_append, hdd h46, hdd h46]

theorem stopLocal_head (a : Lexeme) (ha : ∀ s num, a ≠ .number s num) (c : Nat) (r more : Text) :
    a.stopLocal (c :: r ++ more) = a.stopLocal (c :: r) := by
  have hh : (c :: r ++ more).head? = (c :: r).head? := rfl
  cases a with
  | number s num => exact absurd rfl (ha _ _)
  | identE m u us => simp only [stopLocal]; rw [nameOKE_congr u us _ _ hh]; rfl
  | hashE u us => simp only [stopLocal]; rw [unitsOK_congr _ _ _ hh]; rfl
  | dimensionE s num m u us => simp only [stopLocal]; rw [nameOKE_congr u us _ _ hh]; rfl
  | _ => first | rfl | simp [stopLocal, identStop, nameStop, ctxStop]

theorem stopLocal_nil (a : Lexeme) (ha : a.wf = true) : a.stopLocal [] = true := by
  cases a with
  | cdelim c =>
    simp only [wf, ctxDelims, List.contains_iff_mem, List.mem_cons, List.not_mem_nil, or_false] at ha
    rcases ha with h | h | h | h | h | h | h | h | h | h | h | h <;> subst h <;> rfl
  | identE m u us =>
    simp only [wf, Bool.and_eq_true] at ha
    simp [stopLocal, ha.2, identStop]
  | hashE u us => simpa [stopLocal, nameStop, wf] using ha
  | dimensionE s num m u us =>
    simp only [wf, Bool.and_eq_true] at ha
    simp [stopLocal, ha.2, nameStop]
  | _ => simp [stopLocal, numStop, identStart, dotDigit, identStop, nameStop]

/-- **adjacent lexemes cannot merge**: the text of `b` satisfies the local stop condition of `a` -/
def canFollow (a b : Lexeme) : Bool :=
  a.stopLocal b.render &&
    (match a, b with
     | .number _ _, .cdelim c => c != 45 && c != 46   -- `1-` and `1.` need the character after the delimiter
     | _, _ => true)

theorem stopLocal_append (a b : Lexeme) (hb : b.wf = true) (hab : canFollow a b = true) (more : Text) :
    a.stopLocal (b.render ++ more) = true := by
  simp only [canFollow, Bool.and_eq_true] at hab
  obtain ⟨c, r, hcr, h, -⟩ := render_shape b hb
  by_cases hnum : ∃ s num, a = .number s num
  · obtain ⟨sg, num, rfl⟩ := hnum
    have h' : r = [] → c ≠ 45 ∧ c ≠ 46 := by
      intro hr
      rcases h hr with h | rfl
      · exact h
      · simpa using hab.2
    obtain ⟨h1, h2⟩ := stop_stable c r more h'
    have := hab.1
    rw [hcr] at this ⊢
    simpa only [stopLocal, h1, h2] using this
  · rw [hcr, stopLocal_head a (fun s num h => hnum ⟨s, num, h⟩), ← hcr]
    exact hab.1

def chain {α : Type} (R : α → α → Bool) : List α → Bool
  | a :: b :: l => R a b && chain R (b :: l)
  | _ => true

/-- the non-local RATIO condition at every unsigned integer of the list (see `Lexeme.ratioOK`) -/
def ratioFree : Option Nat → List Lexeme → Bool
  | _, [] => true
  | prev, a :: ls => ratioOK prev a (ls.flatMap render) && ratioFree a.render.getLast? ls

theorem wellSpaced_of_chain : ∀ (ls : List Lexeme) (prev : Option Nat), (∀ l ∈ ls, l.wf = true) →
    chain canFollow ls = true → ratioFree prev ls = true → wellSpaced prev ls = true := by
  intro ls
  induction ls with
  | nil => intro _ _ _ _; rfl
  | cons a ls ih =>
    intro prev hwf hch hrf
    simp only [ratioFree, Bool.and_eq_true] at hrf
    have ha := hwf a List.mem_cons_self
    have hwf' := fun l hl => hwf l (List.mem_cons_of_mem _ hl)
    simp only [wellSpaced, Bool.and_eq_true]
    cases ls with
    | nil => exact ⟨⟨⟨ha, stopLocal_nil a ha⟩, hrf.1⟩, rfl⟩
    | cons b l =>
      simp only [chain, Bool.and_eq_true] at hch
      exact ⟨⟨⟨ha, stopLocal_append a b (hwf' b List.mem_cons_self) hch.1 _⟩, hrf.1⟩, ih _ hwf' hch.2 hrf.2⟩

theorem charset_nmchars : ∀ x ∈ [99, 104, 97, 114, 115, 101, 116], isNmChar x = true := by decide

/-- a well-spaced lexeme sequence does not start with `@charset␠`: the first lexeme would be the
at-keyword `@charset` followed by a space, which its stop condition excludes -/
theorem no_leading_charset (ls : List Lexeme) (prev : Option Nat) (hw : wellSpaced prev ls = true) :
    hasAt (ls.flatMap render) charsetLit = false := by
  cases hh : hasAt (ls.flatMap render) charsetLit with
  | false => rfl
  | true =>
    exfalso
    obtain ⟨tail, htail⟩ := List.isPrefixOf_iff_prefix.mp hh
    cases ls with
    | nil => simp [charsetLit] at htail
    | cons a ls =>
      simp only [wellSpaced, Bool.and_eq_true] at hw
      obtain ⟨⟨⟨hwf, hs⟩, -⟩, -⟩ := hw
      obtain ⟨c, r, hcr, -, hat⟩ := render_shape a hwf
      rw [List.flatMap_cons, hcr] at htail
      have hc : c = 64 := by
        simp only [charsetLit, List.cons_append, List.cons.injEq] at htail
        exact htail.1.symm
      rcases hat hc with ⟨m, u, us, rfl⟩ | rfl
      case inr =>
        -- the delimiter `@` is not followed by a name-start character, `@charset` has `c` there
        subst hc
        have hr : r = [] := by simpa [render] using hcr.symm
        subst hr
        have h99 : ls.flatMap render = 99 :: ([104, 97, 114, 115, 101, 116, 32] ++ tail) := by
          simpa [charsetLit] using htail.symm
        rw [h99] at hs
        simp [stopLocal, ctxStop, isNmStart] at hs
      obtain ⟨hu, hus⟩ := nameOK_spec hwf
      simp only [stopLocal, Bool.and_eq_true, Bool.not_eq_true'] at hs
      have hns := nameStop_spec hs.1
      have heq : identLex m u us ++ ls.flatMap render = [99, 104, 97, 114, 115, 101, 116] ++ 32 :: tail := by
        rw [← hcr] at htail
        simpa [render, charsetLit] using htail.symm
      obtain ⟨h1, h2⟩ := run_unique isNmChar _ _ _ _ (identLex_nmchars m u us hu hus) charset_nmchars
        (fun d hd => (hns d hd).1) (head_cons (by decide)) heq
      simp [h1, h2, atCharset] at hs

theorem toks_of_itemView {α} (items : List (Option Tok × Text)) (ls : List α) (e : α → String × Text)
    (r : α → Text) (h : items.map itemView = ls.map (fun a => (some (e a), r a))) :
    (items.filterMap (·.1)).map (fun t => (t.typ, t.val)) = ls.map e := by
  have h1 := congrArg (List.filterMap _root_.Prod.fst) h
  simpa [List.filterMap_map, List.map_filterMap, itemView, Function.comp_def] using h1

/-- **C09, composition (`classify`).**  Take any list of lexemes, each generated by the token grammar
(`wf`), such that adjacent lexemes cannot merge (`chain canFollow`: the text of the next lexeme satisfies
the stop condition of the previous one), and concatenate their texts.  Outside full-sheet mode the
tokenizer returns exactly that sequence of (type, value) tokens.

Two further hypotheses, both read off the tokenizer and both needed:
* `ratioFree`: RATIO `(?<!\()\s*[0-9]+\s*/\s*[0-9]+(?=\))` precedes NUMBER in the table and looks
  *through* white space, so it is not an adjacency condition: an unsigned integer must come right after
  `(`, or the text after it must not continue, after optional white space, with `/` — the delimiter `/`
  or the start of a comment.  `1/2)` (example below) shows that some such condition is needed; this one
  is the sufficient condition of `classify_number`, stronger than necessary (`1/x`, `1 /**/`: see the
  header);
* `startsWithBom`: the text must not start with one of the two byte-order-mark spellings (`þÿ`, `ï»¿`
  are identifiers by the grammar, but the tokenizer's prelude takes them as BOM). -/
theorem classify_sequence (ls : List Lexeme) (hwf : ∀ l ∈ ls, l.wf = true)
    (hchain : chain canFollow ls = true) (hratio : ratioFree none ls = true)
    (hbom : startsWithBom (ls.flatMap render) = false) :
    (tokenize Gen.tables ⟨false, true⟩ (ls.flatMap render)).toks.map (fun t => (t.typ, t.val))
      = ls.map expected := by
  have hw := wellSpaced_of_chain ls none hwf hchain hratio
  obtain ⟨hitems, heof⟩ := tokenize_of_trivial_prelude Gen.tables ⟨false, true⟩ rfl (ls.flatMap render)
    (gen_bom_none _ hbom) (no_leading_charset ls none hw)
  obtain ⟨hl, -⟩ := classify_loop ⟨false, true⟩ rfl rfl ls ⟨none, ls.flatMap render, 1, 1⟩
    ((ls.flatMap render).length + 1) rfl hw (by simp)
  simp only [Result.toks, heof, hitems, Option.toList_none, List.append_nil]
  exact toks_of_itemView _ ls expected render hl

/-- the same with raw texts and the way the loop ended: every lexeme is matched as a whole, and the
loop ends because the text is used up -/
theorem classify_sequence_raws (ls : List Lexeme) (hwf : ∀ l ∈ ls, l.wf = true)
    (hchain : chain canFollow ls = true) (hratio : ratioFree none ls = true)
    (hbom : startsWithBom (ls.flatMap render) = false) :
    (tokenize Gen.tables ⟨false, true⟩ (ls.flatMap render)).raws = ls.map render ∧
    (tokenize Gen.tables ⟨false, true⟩ (ls.flatMap render)).endKind = .done := by
  have hw := wellSpaced_of_chain ls none hwf hchain hratio
  obtain ⟨hl, hd⟩ := classify_loop ⟨false, true⟩ rfl rfl ls ⟨none, ls.flatMap render, 1, 1⟩
    ((ls.flatMap render).length + 1) rfl hw (by simp)
  have hpre := prelude_trivial Gen.tables (ls.flatMap render) (gen_bom_none _ hbom) (no_leading_charset ls none hw)
  refine ⟨?_, by simp only [tokenize, hpre]; exact hd⟩
  have := congrArg (List.map _root_.Prod.snd) hl
  simp only [List.map_map] at this
  simp only [Result.raws, tokenize, hpre, List.map_nil, List.nil_append]
  exact this

/-! ### non-vacuity and the need for the hypotheses (kernel-checked on the regenerated table) -/

/-- `a{color:red;margin:-1.5em 10%}` as a lexeme list -/
def exRule : List Lexeme :=
  [.ident false 97 [], .fast 123, .ident false 99 [111, 108, 111, 114], .fast 58, .ident false 114 [101, 100],
   .fast 59, .ident false 109 [97, 114, 103, 105, 110], .fast 58, .dimension (some 45) [49, 46, 53] false 101 [109],
   .ws 32 [], .percentage none [49, 48], .fast 125]

example : exRule.flatMap render =
    [97, 123, 99, 111, 108, 111, 114, 58, 114, 101, 100, 59, 109, 97, 114, 103, 105, 110, 58, 45, 49, 46, 53, 101,
      109, 32, 49, 48, 37, 125] := by decide +kernel

/-- the hypotheses of `classify_sequence` hold for it, so its tokens are the expected ones … -/
example : (tokenize Gen.tables ⟨false, true⟩ (exRule.flatMap render)).toks.map (fun t => (t.typ, t.val)) =
    [("IDENT", [97]), ("CHAR", [123]), ("IDENT", [99, 111, 108, 111, 114]), ("CHAR", [58]),
     ("IDENT", [114, 101, 100]), ("CHAR", [59]), ("IDENT", [109, 97, 114, 103, 105, 110]), ("CHAR", [58]),
     ("DIMENSION", [45, 49, 46, 53, 101, 109]), ("S", [32]), ("PERCENTAGE", [49, 48, 37]), ("CHAR", [125])] :=
  classify_sequence exRule (by decide +kernel) (by decide +kernel) (by decide +kernel) (by decide +kernel)

/-- … which the kernel confirms by running the tokenizer model on the text -/
example : (tokenize Gen.tables ⟨false, true⟩ (exRule.flatMap render)).toks.map (fun t => (t.typ, t.val)) =
    exRule.map expected := by decide +kernel

/-- `@media screen{.b:not(#x){color:#fff;content:"x" /**/}}`: at-keyword symbol, contextual delimiter `.`,
FUNCTION, HASH, STRING, COMMENT -/
def exSheet : List Lexeme :=
  [.atkeyword false 109 [101, 100, 105, 97], .ws 32 [], .ident false 115 [99, 114, 101, 101, 110], .fast 123,
   .cdelim 46, .ident false 98 [], .fast 58, .function false 110 [111, 116], .hash 120 [], .delim 41, .fast 123,
   .ident false 99 [111, 108, 111, 114], .fast 58, .hash 102 [102, 102], .fast 59,
   .ident false 99 [111, 110, 116, 101, 110, 116], .fast 58, .string 34 [120], .ws 32 [], .comment [],
   .fast 125, .fast 125]

example : (tokenize Gen.tables ⟨false, true⟩ (exSheet.flatMap render)).toks.map (fun t => (t.typ, t.val)) =
    [("MEDIA_SYM", [64, 109, 101, 100, 105, 97]), ("S", [32]), ("IDENT", [115, 99, 114, 101, 101, 110]),
     ("CHAR", [123]), ("CHAR", [46]), ("IDENT", [98]), ("CHAR", [58]), ("FUNCTION", [110, 111, 116, 40]),
     ("HASH", [35, 120]), ("CHAR", [41]), ("CHAR", [123]), ("IDENT", [99, 111, 108, 111, 114]), ("CHAR", [58]),
     ("HASH", [35, 102, 102, 102]), ("CHAR", [59]), ("IDENT", [99, 111, 110, 116, 101, 110, 116]), ("CHAR", [58]),
     ("STRING", [34, 120, 34]), ("S", [32]), ("COMMENT", [47, 42, 42, 47]), ("CHAR", [125]), ("CHAR", [125])] :=
  classify_sequence exSheet (by decide +kernel) (by decide +kernel) (by decide +kernel) (by decide +kernel)

/-- `12px/1.5` and `(1/2)`: the delimiter `/`; the integer right after `(` is exempt from RATIO -/
example : (tokenize Gen.tables ⟨false, true⟩ [49, 50, 112, 120, 47, 49, 46, 53]).toks.map (fun t => (t.typ, t.val)) =
    [("DIMENSION", [49, 50, 112, 120]), ("CHAR", [47]), ("NUMBER", [49, 46, 53])] :=
  classify_sequence [.dimension none [49, 50] false 112 [120], .cdelim 47, .number none [49, 46, 53]]
    (by decide +kernel) (by decide +kernel) (by decide +kernel) (by decide +kernel)
example : (tokenize Gen.tables ⟨false, true⟩ [40, 49, 47, 50, 41]).toks.map (fun t => (t.typ, t.val)) =
    [("CHAR", [40]), ("NUMBER", [49]), ("CHAR", [47]), ("NUMBER", [50]), ("CHAR", [41])] :=
  classify_sequence [.delim 40, .number none [49], .cdelim 47, .number none [50], .delim 41]
    (by decide +kernel) (by decide +kernel) (by decide +kernel) (by decide +kernel)

/-- `.a\3a b{width:1.5\65m}`: names with hex escapes; the values are `a:b` and `1.5em` -/
def exEsc : List Lexeme :=
  [.cdelim 46, .identE false (.plain 97) [.esc [51, 97] (some 32), .plain 98], .fast 123,
   .ident false 119 [105, 100, 116, 104], .fast 58,
   .dimensionE none [49, 46, 53] false (.esc [54, 53] none) [.plain 109], .fast 125]

example : exEsc.flatMap render =
    [46, 97, 92, 51, 97, 32, 98, 123, 119, 105, 100, 116, 104, 58, 49, 46, 53, 92, 54, 53, 109, 125] := by decide +kernel

example : (tokenize Gen.tables ⟨false, true⟩ (exEsc.flatMap render)).toks.map (fun t => (t.typ, t.val)) =
    [("CHAR", [46]), ("IDENT", [97, 58, 98]), ("CHAR", [123]), ("IDENT", [119, 105, 100, 116, 104]), ("CHAR", [58]),
     ("DIMENSION", [49, 46, 53, 101, 109]), ("CHAR", [125])] :=
  classify_sequence exEsc (by decide +kernel) (by decide +kernel) (by decide +kernel) (by decide +kernel)

example : (tokenize Gen.tables ⟨false, true⟩ (exEsc.flatMap render)).toks.map (fun t => (t.typ, t.val)) =
    exEsc.map expected := by decide +kernel

/-! every hypothesis of `classify_sequence` is needed -/

/-- adjacency, for escapes: in `a\41` + ` ` the space is the terminator of the escape, not an S token -/
example : let ls := [Lexeme.identE false (.plain 97) [.esc [52, 49] none], .ws 32 []]
    (∀ l ∈ ls, l.wf = true) ∧ chain canFollow ls = false ∧
    (tokenize Gen.tables ⟨false, true⟩ (ls.flatMap render)).toks.map (fun t => (t.typ, t.val)) =
      [("IDENT", [97, 65])] := by
  decide +kernel

/-- adjacency: `a` `b` without separation is the single identifier `ab` -/
example : let ls := [Lexeme.ident false 97 [], .ident false 98 []]
    (∀ l ∈ ls, l.wf = true) ∧ chain canFollow ls = false ∧ ratioFree none ls = true ∧
    startsWithBom (ls.flatMap render) = false ∧
    (tokenize Gen.tables ⟨false, true⟩ (ls.flatMap render)).toks.map (fun t => (t.typ, t.val)) ≠ ls.map expected := by
  decide +kernel

/-- RATIO: in `1/2)` all neighbours are fine, yet the tokens are RATIO `1/2` and `)` -/
example : let ls := [Lexeme.number none [49], .cdelim 47, .number none [50], .delim 41]
    (∀ l ∈ ls, l.wf = true) ∧ chain canFollow ls = true ∧ ratioFree none ls = false ∧
    startsWithBom (ls.flatMap render) = false ∧
    (tokenize Gen.tables ⟨false, true⟩ (ls.flatMap render)).toks.map (fun t => (t.typ, t.val)) =
      [("RATIO", [49, 47, 50]), ("CHAR", [41])] := by
  decide +kernel

/-- byte-order mark: the identifier `þÿ` at the very start of the text is taken as a BOM -/
example : let ls := [Lexeme.ident false 254 [255], .ws 32 []]
    (∀ l ∈ ls, l.wf = true) ∧ chain canFollow ls = true ∧ ratioFree none ls = true ∧
    startsWithBom (ls.flatMap render) = true ∧
    (tokenize Gen.tables ⟨false, true⟩ (ls.flatMap render)).toks.map (fun t => (t.typ, t.val)) =
      [("BOM", [254, 255]), ("S", [32])] := by
  decide +kernel

/-- well-formedness: `url` `(` is not a FUNCTION lexeme (it may start a URI), `@charset` before a space
is not an at-keyword lexeme boundary -/
example : (Lexeme.function false 117 [114, 108]).wf = false ∧
    canFollow (.atkeyword false 99 [104, 97, 114, 115, 101, 116]) (.ws 32 []) = false := by decide +kernel

end CssVerif.C09
