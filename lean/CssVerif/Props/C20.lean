/-
C20 — @import loading is confined to the fetcher and tolerates its failures.

`Model/Import.lean` transcribes the decisions of `util._readUrl` (which encoding, from which source),
`CSSImportRule._setHref` (what becomes of each thing a fetcher can do) and the path algorithm of
`util.urljoin`, and states RFC 3986 5.2.4 on path segments.

Proved: the encoding is the first available of override ≻ HTTP ≻ BOM/@charset ≻ importing sheet ≻ UTF-8;
for every fetcher behaviour of the property's table (plus an unknown encoding label and a circular
import) loading ends with the rule kept and the sheet loaded or empty, never with an exception; and the
path of `urljoin(base, ref)` is the RFC's `remove_dot_segments(merge(base, ref))` for an absolute base path
and relative-path references of any length that do not climb above the root, the merged path having no empty
inner segment.  The two escapes of the pinned snapshot are kept as witnesses.

Tie: `encsel` (full 3x4x3x4 table against the encoding the real imported sheet gets), `fetchout` (each behaviour
against the real parser), `urlpath` / `rfcpath` (model and RFC side against util.urljoin and a string-level
transcription of the RFC's pseudo-code).
Partial: that the fetcher is the only I/O and that nested imports resolve against the imported sheet are
decided by the oracle on the implementation.

resolveImports (second half of this file): `Model/Resolve.lean` transcribes `css_parser.resolveImports` with
the in-order `CSSStyleSheet.add`, `_cleanNamespaces` and `CSSMediaRule.add` it runs through (tie: driver op
`resolve`, harness/props/c20r.py, random import trees against the real call).  Proved for import trees of any
depth and width (the model never runs out of fuel: `resolve_fuel_enough`): the body rules of the flat sheet are the document-order traversal of the tree
(`resolve_order`), its @import rules are exactly the unloaded ones that can bubble up plus the loaded ones
that are kept (`resolve_imports`, `resolve_unloaded_kept`), a media-restricted import ends in ONE @media
block with its query (`resolve_media_wrapped`), no loaded import is left when every restricted import
imports a plain sheet (`resolve_no_loaded_import_left`; otherwise the import is KEPT, as the docstring says),
the flat sheet is arranged [one comment] @imports, @namespaces, the rest (`resolve_arrangement`) and is a
fixed point when no loaded import is left (`resolve_idempotent`).  A media-restricted import of a sheet
whose flat sheet still holds an @import (one that could not be loaded, or a kept one) is kept as well
(`restricted_nested_unloaded_kept`; without the check of the rule kinds that library commit cdf8fa7 put in front
of the wrapping, `CSSMediaRule.add` raises HierarchyRequestErr out of resolveImports), and HierarchyRequestErr never leaves resolveImports
(`resolve_never_hierarchy`): the only outcomes are a flat sheet or NoModificationAllowedErr
(`resolve_outcomes`).  What the property text does not say and the code does is kept as kernel-checked
witnesses: NoModificationAllowedErr when namespace prefixes clash (`namespace_clash_raises`), a second run
repeats the START comment of a kept import (`not_idempotent_when_kept`).
-/
import CssVerif.Proofs.Import
import CssVerif.Proofs.Resolve
namespace CssVerif.C20
open CssVerif.Import

/-- documented priority of the encoding sources -/
theorem enc_priority (o h e p : Option Nat) (u : Nat) :
    (chooseEncoding o h e p u).1 = ((o.or h).or (e.or p)).getD u := by
  fun_cases chooseEncoding o h e p u <;> rfl

theorem enc_source (o h e p u : Nat) :
    (chooseEncoding (some o) (some h) (some e) (some p) u).2 = .override ∧
    (chooseEncoding none (some h) (some e) (some p) u).2 = .http ∧
    (chooseEncoding none none (some e) (some p) u).2 = .content ∧
    (chooseEncoding none none none (some p) u).2 = .parent ∧
    (chooseEncoding none none none none u).2 = .default := ⟨rfl, rfl, rfl, rfl, rfl⟩

/-- an override stays an override for nested imports; the default is not handed on -/
theorem hand_on (e : Nat) :
    handOn (e, .override) = (some e, none) ∧ handOn (e, .http) = (none, some e) ∧
    handOn (e, .content) = (none, some e) ∧ handOn (e, .parent) = (none, some e) ∧ handOn (e, .default) = (none, none) :=
  ⟨rfl, rfl, rfl, rfl, rfl⟩

/-- nested imports: an override is sticky, otherwise own sources first, then the importing sheet's encoding -/
theorem enc_nested (o : Nat) (h1 e1 p1 h2 e2 : Option Nat) (u : Nat) :
    chooseNested (some o) h1 e1 p1 h2 e2 u = (o, .override) ∧
    (chooseNested none h1 e1 p1 h2 e2 u).1 = ((h2.or e2).or ((h1.or e1).or p1)).getD u :=
  ⟨rfl, by simp only [chooseNested, handOn_none, enc_priority, Option.none_or, Option.or_assoc]⟩

/-- whatever the fetcher does, loading ends: loaded for text / decodable bytes, an empty sheet otherwise -/
theorem fetch_contained (f : Fetch) : setHref true f = some (if loads f then .loaded else .failedEmpty) := contained f

/-- the pinned snapshot let LookupError and RecursionError escape -/
theorem snapshot_counterexample : setHref false .unknownEncoding = none ∧ setHref false .cyclic = none := ⟨rfl, rfl⟩

/-- `urljoin` is RFC 3986 below the root -/
theorem urljoin_rfc (base rel : Path) (hrel : rel.head? ≠ some "")
    (segs : List String) (hsegs : (if base.getLast? == some "" then base else base.dropLast) ++ rel = "" :: segs)
    (hne : dropInnerEmpty ("" :: segs) = "" :: segs) (hclimb : noClimb 0 segs = true) :
    joinPath base rel = rfcPath ("" :: segs) := by
  have hh : (rel.head? == some "") = false := beq_eq_false_iff_ne.2 hrel
  have h0 : resolveLoop ("" :: segs) [] = "" :: rfcLoop segs [] := by
    simpa [resolveLoop] using resolveLoop_rfc segs [] hclimb
  simp only [joinPath, hh, Bool.false_eq_true, if_false, hsegs, hne, rfcPath, List.tail_cons, h0]
  split <;> simp

/-- non-vacuity: `/d/e/s.css` + `../x/./a.css` -/
example : joinPath ["", "d", "e", "s.css"] ["..", "x", ".", "a.css"] = ["", "d", "x", "a.css"] ∧
    noClimb 0 ["d", "e", "..", "x", ".", "a.css"] = true ∧
    rfcPath ["", "d", "e", "..", "x", ".", "a.css"] = ["", "d", "x", "a.css"] := by decide

/-- where css_parser deliberately leaves the RFC: a reference climbing above the root keeps its `..` -/
theorem above_root_differs :
    joinPath ["", "s.css"] ["..", "..", "a.css"] = ["..", "a.css"] ∧ rfcPath ["", "..", "..", "a.css"] = ["", "a.css"] := by decide

/-! ## resolveImports -/

open CssVerif.Resolve

/-- **fuel**: the nesting depth of the loaded imports is enough, more changes nothing, and the model
never runs out of it -/
theorem resolve_fuel_enough (s : Sheet) (fuel : Nat) (h : heightL s ≤ fuel) :
    resolve fuel s = resolveImports s ∧ resolveImports s ≠ .raised .fuel :=
  ⟨resolve_enough fuel (heightL s) s h (Nat.le_refl _), fun h' => nomatch resolve_raised h'⟩

/-- **(a) order**: the body rules (everything but @charset, @import, @namespace) of the flat sheet are,
in order, the traversal `flatBody` of the import tree: nothing lost, nothing duplicated, nothing moved -/
theorem resolve_order (s t : Sheet) (h : resolveImports s = .ok t) : t.filter Rule.isBody = flatBody s :=
  (resolve_ok h).bodies

/-- what `flatBody` is: document order; a loaded @import is replaced by its START comment followed by —
nothing if it is kept as a rule, else the body of its own flat sheet, in ONE @media block if restricted -/
theorem flatBody_def (r : Rule) (rs : Sheet) : flatBody [] = [] ∧ flatBody (r :: rs) =
    (match r with
     | .charset _ => [] | .ns _ _ => [] | .imp _ _ none => []
     | .imp i q (some sub) => .start i ::
        (if kept q sub then [] else if q = 0 then flatBody sub else [.media q (flatBody sub)])
     | r => [r]) ++ flatBody rs := by
  refine ⟨rfl, ?_⟩
  cases r with
  | imp i q tg =>
    cases tg with
    | none => rfl
    | some sub =>
      simp only [flatBody, sumL_cons, sum_loaded, Sum.app]
      split
      · rfl
      · split <;> rfl
  | _ => rfl

/-- when a loaded @import stays a rule: it is media-restricted and the flat sheet of the imported sheet
holds something else than comments and style rules — an @namespace rule, an @import rule (an unloaded or
a kept one), or another body rule -/
theorem kept_def (q : Nat) (sub : Sheet) :
    kept q sub = (q != 0 && flatHard sub) ∧
    flatHard sub = ((sumL sub).ns || !(flatImports sub).isEmpty || (flatBody sub).any (fun x => !x.canWrap)) :=
  ⟨rfl, rfl⟩

/-- what cannot live in the @media block of a restricted import keeps the import: @namespace, @font-face,
@page, an unknown at-rule, an @media block, an @import that could not be loaded (directly or handed up by
an unrestricted import); the imported sheet's @charset is dropped and does not count; with media `all`
nothing is kept -/
example : kept 5 [.ns 0 1] = true ∧ kept 5 [.block .fontface 1] = true ∧ kept 5 [.block .page 1] = true ∧
    kept 5 [.block .unknown 1] = true ∧ kept 5 [.media 2 []] = true ∧
    kept 5 [.imp 2 0 none, .style 1 []] = true ∧ kept 5 [.imp 2 0 (some [.imp 3 0 none, .style 1 []])] = true ∧
    kept 5 [.charset 1, .comment 1, .style 1 []] = false ∧ kept 0 [.ns 0 1, .block .page 1, .media 2 []] = false ∧
    kept 0 [.imp 2 0 none] = false ∧
    resolveImports [.imp 1 0 (some [.charset 1, .ns 0 1, .block .page 1]), .style 9 []] =
      .ok [.ns 0 1, .start 1, .block .page 1, .style 9 []] := ⟨rfl, rfl, rfl, rfl, rfl, rfl, rfl, rfl, rfl, rfl, rfl⟩

/-- (a) for trees in which every import can be inlined: the naive traversal (every loaded import expanded
in place, restricted ones inside @media) -/
theorem resolve_order_inlinable (s t : Sheet) (h : resolveImports s = .ok t) (hi : inlinableL s = true) :
    t.filter Rule.isBody = expandL s := by
  rw [resolve_order s t h]; exact (inlinableL_sum s hi).1

/-- non-vacuity of `inlinableL`: a restricted import of a sheet that imports a plain sheet -/
example : inlinableL [.imp 1 5 (some [.charset 1, .imp 2 0 (some [.style 1 []]), .comment 3]), .imp 4 0 none, .style 9 []] = true ∧
    resolveImports [.imp 1 5 (some [.charset 1, .imp 2 0 (some [.style 1 []]), .comment 3]), .imp 4 0 none, .style 9 []] =
      .ok [.start 1, .imp 4 0 none, .media 5 [.start 2, .style 1 [], .comment 3], .style 9 []] := ⟨rfl, rfl⟩

/-- **(b) the @import rules of the flat sheet** are exactly `flatImports`: -/
theorem resolve_imports (s t : Sheet) (h : resolveImports s = .ok t) : t.filter Rule.isImport = flatImports s :=
  (resolve_ok h).imps

/-- an unloaded @import stays; a loaded one stays if kept, hands up the @imports of its own flat sheet if
its media is `all` (an unloaded import inside a loaded sheet thus becomes an @import of the flat sheet, its
href unchanged), and has none to hand up if it is restricted (with one, it is kept): -/
theorem flatImports_def (r : Rule) (rs : Sheet) : flatImports (r :: rs) =
    (match r with
     | .imp i q none => [.imp i q none]
     | .imp i q (some sub) =>
        if kept q sub then [.imp i q (some sub)] else if q = 0 then flatImports sub else []
     | _ => []) ++ flatImports rs := by
  cases r with
  | imp i q tg =>
    cases tg with
    | none => rfl
    | some sub =>
      simp only [flatImports, flatBody, sumL_cons, sum_loaded, Sum.app]
      split
      · rfl
      · split <;> rfl
  | _ => rfl

theorem unloaded_sublist_flatImports : ∀ (s : Sheet), (s.filter Rule.isUnloaded).Sublist (flatImports s)
  | [] => by simp
  | r :: rs => by
    rw [flatImports_def, List.filter_cons]
    have ih := unloaded_sublist_flatImports rs
    cases r with
    | imp i q tg =>
      cases tg with
      | none => simpa [Rule.isUnloaded] using ih
      | some sub => simpa [Rule.isUnloaded] using ih.trans (List.sublist_append_right _ _)
    | _ => simpa [Rule.isUnloaded] using ih

/-- **(b) every unloaded @import of the sheet is still an @import rule of the flat sheet**, in the same order -/
theorem resolve_unloaded_kept (s t : Sheet) (h : resolveImports s = .ok t) :
    (s.filter Rule.isUnloaded).Sublist t :=
  (unloaded_sublist_flatImports s).trans (by rw [← resolve_imports s t h]; exact List.filter_sublist)

/-- … and they are moved to the front: the flat sheet is at most one comment, the @imports, the
@namespace rules (no two with the same prefix or the same URI), then everything else; no @charset -/
theorem resolve_arrangement (s t : Sheet) (h : resolveImports s = .ok t) :
    (∃ c I P B, t = c ++ I ++ nsRules P ++ B ∧ (c = [] ∨ ∃ x, c = [x] ∧ x.isComment = true ∧ I ≠ []) ∧
      (∀ x ∈ I, x.isImport = true) ∧ Inj P ∧ (∀ x ∈ B, x.isBody = true)) ∧
    (∀ x ∈ t, x.isCharset = false) := by
  obtain ⟨c, I, P, B, e, a⟩ := (resolve_ok h).nf
  exact ⟨⟨c, I, P, B, e, a.head, a.allImp, a.inj, a.allBody⟩, NF_noCharset (resolve_ok h).nf⟩

/-- the real sheet `/*c0*/ @import "a"; @import "u" (not loaded); x{}`: the unloaded import is moved in
front of the START comment, behind the leading comment -/
theorem unloaded_moves_to_front :
    resolveImports [.comment 0, .imp 1 0 (some [.style 1 []]), .imp 2 0 none, .style 9 []] =
      .ok [.comment 0, .imp 2 0 none, .start 1, .style 1 [], .style 9 []] := rfl

/-- a kept import stays an @import rule of the flat sheet -/
theorem kept_mem_flatImports : ∀ (s : Sheet) (i q : Nat) (sub : Sheet), Rule.imp i q (some sub) ∈ s →
    kept q sub = true → Rule.imp i q (some sub) ∈ flatImports s
  | [], _, _, _, h, _ => by simp at h
  | r :: rs, i, q, sub, h, hk => by
    rw [flatImports_def]
    rcases List.mem_cons.1 h with h | h
    · subst h; simp [hk]
    · exact List.mem_append_right _ (kept_mem_flatImports rs i q sub h hk)

theorem resolve_kept_stays (s t : Sheet) (i q : Nat) (sub : Sheet) (h : resolveImports s = .ok t)
    (hm : Rule.imp i q (some sub) ∈ s) (hk : kept q sub = true) : Rule.imp i q (some sub) ∈ t := by
  have := kept_mem_flatImports s i q sub hm hk
  rw [← resolve_imports s t h] at this
  exact (List.mem_filter.1 this).1

/-- **HierarchyRequestErr never leaves `resolveImports`** (the `except HierarchyRequestErr` around the
nested call and the raising `CSSMediaRule.add` are transcribed in the model; neither is reached) -/
theorem resolve_never_hierarchy (s : Sheet) : resolveImports s ≠ .raised .hierarchy :=
  fun h => nomatch resolve_raised h

/-- the outcomes of `resolveImports`: a flat sheet, or NoModificationAllowedErr (`namespace_clash_raises`) -/
theorem resolve_outcomes (s : Sheet) : (∃ t, resolveImports s = .ok t) ∨ resolveImports s = .raised .noModification := by
  cases h : resolveImports s with
  | ok t => exact Or.inl ⟨t, rfl⟩
  | raised e => exact Or.inr (by rw [resolve_raised h])

/-- **what happens to an unloaded @import inside a media-restricted loaded import**: whenever the flat
sheet of the imported sheet holds an @import rule, the restricted import is kept — it is an @import rule
of the result, with its media and its sheet, and contributes only its START comment to the body ("In
these cases the @import rule is kept as in the original sheet", docstring) -/
theorem restricted_nested_unloaded_kept (s t : Sheet) (i q : Nat) (sub : Sheet)
    (h : resolveImports s = .ok t) (hm : Rule.imp i q (some sub) ∈ s) (hq : q ≠ 0) (hu : flatImports sub ≠ []) :
    kept q sub = true ∧ Rule.imp i q (some sub) ∈ t := by
  cases hk : kept q sub with
  | false => exact absurd (kept_false q sub hq hk).2.1 hu
  | true => exact ⟨rfl, resolve_kept_stays s t i q sub h hm hk⟩

/-- … in particular when the imported sheet has an @import that was not loaded -/
theorem restricted_unloaded_kept (s t : Sheet) (i q : Nat) (sub : Sheet) (j p : Nat)
    (h : resolveImports s = .ok t) (hm : Rule.imp i q (some sub) ∈ s) (hq : q ≠ 0) (hu : Rule.imp j p none ∈ sub) :
    Rule.imp i q (some sub) ∈ t := by
  refine (restricted_nested_unloaded_kept s t i q sub h hm hq ?_).2
  intro he
  have := (unloaded_sublist_flatImports sub).subset (List.mem_filter.2 ⟨hu, rfl⟩)
  rw [he] at this; simp at this

/-- non-vacuity of `restricted_nested_unloaded_kept`; it needs both hypotheses: with media `all` the
unloaded import is handed up and the import dissolved, and a restricted import of a sheet without an
@import left is wrapped -/
example : Rule.imp 1 5 (some [.imp 2 0 none, .style 2 []]) ∈ [Rule.imp 1 5 (some [.imp 2 0 none, .style 2 []]), .style 9 []] ∧
    flatImports [.imp 2 0 none, .style 2 []] ≠ [] ∧
    resolveImports [.imp 1 0 (some [.imp 2 0 none, .style 2 []]), .style 9 []] =
      .ok [.start 1, .imp 2 0 none, .style 2 [], .style 9 []] ∧
    resolveImports [.imp 1 5 (some [.imp 2 0 (some [.style 3 []]), .style 2 []]), .style 9 []] =
      .ok [.start 1, .media 5 [.start 2, .style 3 [], .style 2 []], .style 9 []] := by
  refine ⟨by simp, by decide, rfl, rfl⟩

/-- the real sheet `@import "b.css" print; x{}` with b.css = `@import "n.css" (not loaded); b{}`: the
import is kept behind its START comment (HierarchyRequestErr without the check of library commit cdf8fa7) -/
theorem restricted_nested_unloaded_witness :
    resolveImports [.imp 1 5 (some [.imp 2 0 none, .style 2 []]), .style 9 []] =
      .ok [.start 1, .imp 1 5 (some [.imp 2 0 none, .style 2 []]), .style 9 []] ∧
    -- one level down: the kept import is handed up by the unrestricted import around it
    resolveImports [.imp 0 0 (some [.imp 1 5 (some [.imp 2 0 none, .style 2 []]), .style 1 []]), .style 9 []] =
      .ok [.start 0, .imp 1 5 (some [.imp 2 0 none, .style 2 []]), .start 1, .style 1 [], .style 9 []] ∧
    -- … and makes a restricted import around it a kept one
    resolveImports [.imp 0 5 (some [.imp 1 5 (some [.imp 2 0 none, .style 2 []]), .style 1 []]), .style 9 []] =
      .ok [.start 0, .imp 0 5 (some [.imp 1 5 (some [.imp 2 0 none, .style 2 []]), .style 1 []]), .style 9 []] :=
  ⟨rfl, rfl, rfl⟩

/-- **(c) media**: a loaded import that is not kept contributes, at its place, its START comment and then
— if it is media-restricted — ONE @media block with its query holding the whole body of its flat sheet
(only comments and style rules, and that flat sheet has no @import: both are what "not kept" means); if its media is `all`, the body of
its flat sheet unwrapped, and its @imports join the @imports of the flat sheet -/
theorem resolve_media_wrapped (pre post sub t : Sheet) (i q : Nat)
    (h : resolveImports (pre ++ .imp i q (some sub) :: post) = .ok t) (hk : kept q sub = false) :
    (q ≠ 0 → t.filter Rule.isBody = flatBody pre ++ .start i :: .media q (flatBody sub) :: flatBody post ∧
      flatImports sub = [] ∧ (flatBody sub).any (fun x => !x.canWrap) = false ∧
      t.filter Rule.isImport = flatImports pre ++ flatImports post) ∧
    (q = 0 → t.filter Rule.isBody = flatBody pre ++ .start i :: (flatBody sub ++ flatBody post) ∧
      t.filter Rule.isImport = flatImports pre ++ (flatImports sub ++ flatImports post)) := by
  have hb' := resolve_order _ t h
  have hi' := resolve_imports _ t h
  rw [flatBody_append, (flatBody_def _ _).2] at hb'
  rw [flatImports_append, flatImports_def] at hi'
  simp only [hk, Bool.false_eq_true, if_false] at hb' hi'
  constructor
  · intro hq
    obtain ⟨_, hemp, hwrap⟩ := kept_false q sub hq hk
    simp only [hq, if_false] at hb' hi'
    exact ⟨by rw [hb']; simp, hemp, hwrap, by rw [hi']; simp⟩
  · intro hq
    simp only [hq, if_true] at hb' hi'
    exact ⟨by rw [hb']; simp, by rw [hi']⟩

/-- the block of a restricted import is the whole flat sheet of the imported sheet -/
theorem wrapped_is_flat_sheet (sub t' : Sheet) (q : Nat) (hq : q ≠ 0) (hk : kept q sub = false)
    (h : resolveImports sub = .ok t') : t' = flatBody sub := by
  obtain ⟨hi, hb, hn⟩ := (resolve_ok h).of_nil
  obtain ⟨c, I, P, B, rfl, a⟩ := (resolve_ok h).nf
  obtain ⟨p1, p2, p3⟩ := a.proj
  obtain ⟨k1, k2, _⟩ := kept_false q sub hq hk
  rw [p1, k2] at hi
  rw [p3, k1] at hn
  have hP : P = [] := by cases P <;> simp at hn ⊢
  rw [← hb, p2, hi, hP]
  simp [nsRules]

example : kept 5 [.comment 1, .style 1 []] = false ∧ flatImports [.comment 1, .style 1 []] = [] ∧
    resolveImports [.comment 1, .style 1 []] = .ok (flatBody [.comment 1, .style 1 []]) := ⟨rfl, rfl, rfl⟩

/-- non-vacuity of (c), and nested restricted imports: the inner import becomes an @media block, which
makes the outer one a kept import -/
example : kept 5 [.imp 2 0 (some [.style 1 []]), .comment 3] = false ∧
    kept 5 [.imp 2 6 (some [.style 1 []])] = true ∧
    resolveImports [.imp 1 5 (some [.imp 2 6 (some [.style 1 []])]), .style 9 []] =
      .ok [.start 1, .imp 1 5 (some [.imp 2 6 (some [.style 1 []])]), .style 9 []] := ⟨rfl, rfl, rfl⟩

/-- **(d) no loaded import is left** when every media-restricted loaded import (at any depth) imports a
plain sheet: @charset, comments, style rules and loaded unrestricted imports of plain sheets -/
theorem resolve_no_loaded_import_left (s t : Sheet) (h : resolveImports s = .ok t) (hi : inlinableL s = true) :
    ∀ r ∈ t, r.isLoaded = false := by
  intro r hr
  cases r with
  | imp i q tg =>
    cases tg with
    | none => rfl
    | some sub =>
      have : Rule.imp i q (some sub) ∈ flatImports s := by
        rw [← resolve_imports s t h]; exact List.mem_filter.2 ⟨hr, rfl⟩
      cases List.all_eq_true.1 (inlinableL_sum s hi).2 _ this
  | _ => rfl

/-- (d) needs the hypothesis: a restricted import of a sheet with @page is kept ("In these cases the
@import rule is kept as in the original sheet", docstring) -/
theorem loaded_import_left_witness :
    inlinableL [.imp 1 5 (some [.style 2 [], .block .page 1]), .style 9 []] = false ∧
    resolveImports [.imp 1 5 (some [.style 2 [], .block .page 1]), .style 9 []] =
      .ok [.start 1, .imp 1 5 (some [.style 2 [], .block .page 1]), .style 9 []] := ⟨rfl, rfl⟩

/-- **(e) idempotence**: a flat sheet without a loaded import is a fixed point -/
theorem resolve_idempotent (s t : Sheet) (h : resolveImports s = .ok t) (hl : ∀ r ∈ t, r.isLoaded = false) :
    resolveImports t = .ok t := Resolve.resolve_idempotent s t h hl

/-- non-vacuity of (e): a flat sheet with an unloaded import, a namespace and a wrapped import -/
example : resolveImports [.comment 0, .imp 1 5 (some [.style 1 []]), .imp 2 0 none, .ns 1 1, .style 9 [1]] =
      .ok [.comment 0, .imp 2 0 none, .ns 1 1, .start 1, .media 5 [.style 1 []], .style 9 [1]] ∧
    resolveImports [.comment 0, .imp 2 0 none, .ns 1 1, .start 1, .media 5 [.style 1 []], .style 9 [1]] =
      .ok [.comment 0, .imp 2 0 none, .ns 1 1, .start 1, .media 5 [.style 1 []], .style 9 [1]] := ⟨rfl, rfl⟩

theorem resolve_idempotent_inlinable (s t : Sheet) (h : resolveImports s = .ok t) (hi : inlinableL s = true) :
    resolveImports t = .ok t := Resolve.resolve_idempotent s t h (resolve_no_loaded_import_left s t h hi)

/-- (e) fails with a kept import: the second run writes its START comment again -/
theorem not_idempotent_when_kept :
    resolveImports [.imp 1 5 (some [.style 2 [], .block .page 1]), .style 9 []] =
      .ok [.start 1, .imp 1 5 (some [.style 2 [], .block .page 1]), .style 9 []] ∧
    resolveImports [.start 1, .imp 1 5 (some [.style 2 [], .block .page 1]), .style 9 []] =
      .ok [.start 1, .imp 1 5 (some [.style 2 [], .block .page 1]), .start 1, .style 9 []] := ⟨rfl, rfl⟩

/-- @namespace rules of an imported sheet (media `all`) join the target's; a declaration that clashes with
an earlier one (same prefix or same URI) displaces it, and if the displaced one is in use
NoModificationAllowedErr leaves resolveImports: `@import "a"; @namespace p "u2"; p|x{}` with
a = `@namespace p "u1"; p|y{}`; unused, the imported declaration is dropped silently -/
theorem namespace_clash_raises :
    resolveImports [.imp 1 0 (some [.ns 1 1, .style 1 [1]]), .ns 1 2, .style 2 [2]] = .raised .noModification ∧
    resolveImports [.imp 1 0 (some [.ns 1 1, .style 1 []]), .ns 1 2, .style 2 [2]] =
      .ok [.ns 1 2, .start 1, .style 1 [], .style 2 [2]] := ⟨rfl, rfl⟩

end CssVerif.C20
