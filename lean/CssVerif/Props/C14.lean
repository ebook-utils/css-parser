/-
C14 — CSS codec: detection priority, inverse, chunking-invariant.

Model: `Model/Codec.lean` (detection by candidate elimination, text-level detection, @charset
rewriting, one-shot functions, incremental state machines over an abstract inner codec `I`).
The inner codec is Python's; the model assumes of it exactly `DecLaw` (feeding a then b = feeding
a ++ b; failures are not forgotten) for its incremental decoders and `EncLaw` (the same two laws)
for its incremental encoders; the inverse additionally assumes that the inner codec round-trips and that
the encoding name written into the header has no quote character.

The inverse WITHOUT an encoding argument on the decoder side (`encode t none` then `decode b none`)
assumes, for the one encoding name `e` that the text selects — an ASCII name without quote that is not a
`utf-8-sig` spelling —, `AsciiTransparent I e` (`Proofs/CodecInverse.lean`), and for a text without a
complete head additionally that the byte detector answers UTF-8: the name is registered, the one-shot inner codec round-trips
(`encodeAll e t = some b → decodeAll e b = some t`), and an ASCII prefix of the text comes out as the
same bytes (`encodeAll e (p ++ r) = some b`, `p` ASCII → `b = p ++ _`).  Nothing is assumed about the
bytes after the ASCII prefix.  For the `utf-8-sig` spellings (not ASCII-transparent: a byte-order
mark comes first) the assumption is `SigCodec I e`: the bytes start with `EF BB BF` and the decoder
registered as `utf-8-sig` reads them back.  Texts whose UTF-8 bytes look like a byte-order mark or a
UTF-16/32 `@` (`U+FEFF…`, `"@\0c\0"`, `"\0@"`, …) do NOT survive: see the counterexamples at the end.
-/
import CssVerif.Proofs.Codec
import CssVerif.Proofs.CodecEnc
import CssVerif.Proofs.CodecInverse
namespace CssVerif.C14
open CssVerif CssVerif.Codec

deriving instance DecidableEq for Except

/-- **chunking invariance (decoder)**: for every way of cutting the byte stream into chunks, the
incremental decoder's concatenated output — or its error — is exactly that of the one-shot function -/
theorem idecode_chunks (I : Inner) (law : DecLaw I) (chunks : List Bytes) (enc : Option Text) (force : Bool) :
    (decFeed I (decInit I enc force) chunks).map (·.1) = decode I chunks.flatten enc force := by
  rw [decFeed_eq law chunks (decInit I enc force)]
  exact decStep_oneshot I chunks.flatten enc force

/-- two chunkings of the same bytes give the same result -/
theorem idecode_chunking_irrelevant (I : Inner) (law : DecLaw I) (c1 c2 : List Bytes)
    (h : c1.flatten = c2.flatten) (enc : Option Text) (force : Bool) :
    (decFeed I (decInit I enc force) c1).map (·.1) = (decFeed I (decInit I enc force) c2).map (·.1) := by
  rw [idecode_chunks I law c1, idecode_chunks I law c2, h]

/-- a detection, once made on a prefix, is never revised by more input -/
theorem detect_stable (p q : Bytes) (f : Bool) (e : Text) (x : Bool)
    (h : detectStr p false = (some e, x)) : detectStr (p ++ q) f = (some e, x) :=
  Codec.detect_stable p q f e x h

/-- a rewritten header is never revised by more input: the rest is passed through -/
theorem fix_stable (p q e : Text) (f : Bool) (t : Text) (h : fixEncoding p e false = some t) :
    fixEncoding (p ++ q) e f = some (t ++ q) := Codec.fix_stable p q e f t h

/-- at end of input both the detector and the rewriter always answer -/
theorem final_total (b : Bytes) (t e : Text) :
    (∃ n x, detectStr b true = (some n, x)) ∧ (fixEncoding t e true).isSome = true :=
  ⟨detect_final b, fix_final t e⟩

/-! ### detection priority (decision logic stated outright) -/

/-- an explicit encoding argument (with `force`, the default) wins over anything in the bytes -/
theorem priority_explicit (I : Inner) (b : Bytes) (e : Text) :
    decode I b (some e) true = decodeWith I e b := by
  unfold decode
  simp

/-- byte-order marks -/
theorem priority_bom_utf8 (t : Bytes) (f : Bool) :
    detectStr (0xEF :: 0xBB :: 0xBF :: t) f = (some (ofStr "utf-8-sig"), true) := detect_bom t f

theorem priority_bom_utf16be (t : Bytes) (f : Bool) :
    detectStr (0xFE :: 0xFF :: t) f = (some (ofStr "utf-16"), true) :=
  detect_single f (c := .utf16asBE) (by match t with | [] => rfl | [_] => rfl | _ :: _ :: _ => rfl)
    (by simp [need]) rfl

/-- no candidate pattern fits: UTF-8 -/
theorem priority_default (b : Bytes) (f : Bool) (h : cands b = []) : detectStr b f = (some utf8, false) :=
  detect_cands_nil f h

/-- where the name of a complete `@charset` rule ends: at the first quote -/
theorem findIdx_quote (name rest : Text) (hq : ∀ c ∈ name, c ≠ 34) :
    (name ++ 34 :: rest).findIdx? (· == 34) = some name.length := findIdx_first_quote name rest hq

/-- a complete leading `@charset "name"` rule names the encoding -/
theorem priority_charset (name rest : Text) (f : Bool) (hq : ∀ c ∈ name, c ≠ 34) :
    detectStr (charsetPrefix ++ name ++ 34 :: rest) f = (some name, true) := detect_head name rest f hq

/-! non-vacuity -/
example : detectStr (ofStr "@charset \"latin-1\";a") true = (some (ofStr "latin-1"), true) := by decide +kernel
example : detectStr [0xFF, 0xFE] true = (some (ofStr "utf-16"), true) := by decide +kernel
example : fixEncoding (ofStr "@charset \"x\";a") (ofStr "utf-8") false = some (ofStr "@charset \"utf-8\";a") := by decide +kernel

/-! ### the incremental ENCODER -/

/-- **chunking invariance (encoder)**: for every way of cutting the text into chunks, the incremental
encoder's concatenated output — or its error — is exactly that of the one-shot `encode`.
No side condition on the encoding name is needed: the second rewrite `encStep` performs for
`utf-8-sig` always writes `utf-8`, which has no quote, so it is the identity (`fix_idempotent` at the
name `utf-8`: `Codec.fix_sig_idem`), and it is decided as soon as the first one is (`Codec.fix_decided`). -/
theorem iencode_chunks (I : Inner) (law : EncLaw I) (chunks : List Text) (enc : Option Text) :
    (encFeed I (encInit I enc) chunks).map (·.1) = encode I chunks.flatten enc := by
  rw [encFeed_eq law chunks (encInit I enc)]
  exact encStep_oneshot I chunks.flatten enc

/-- two chunkings of the same text give the same result -/
theorem iencode_chunking_irrelevant (I : Inner) (law : EncLaw I) (c1 c2 : List Text)
    (h : c1.flatten = c2.flatten) (enc : Option Text) :
    (encFeed I (encInit I enc) c1).map (·.1) = (encFeed I (encInit I enc) c2).map (·.1) := by
  rw [iencode_chunks I law c1, iencode_chunks I law c2, h]

/-- two encoder steps = one step on the concatenation, from ANY state (buffering, running, with or
without an explicit encoding), final or not — state included, not only the output -/
theorem iencode_two_chunks (I : Inner) (law : EncLaw I) (st : EncSt I) (a b : Text) (f : Bool) :
    twoEncSteps I st a b f = encStep I st (a ++ b) f := twoEncSteps_eq law st a b f

/-- any chunk list from ANY state = one final step on the concatenation -/
theorem iencode_feed_any_state (I : Inner) (law : EncLaw I) (cs : List Text) (st : EncSt I) :
    encFeed I st cs = encStep I st cs.flatten true := encFeed_eq law cs st

/-- the one-shot `encode` is the incremental encoder fed everything at once -/
theorem iencode_oneshot (I : Inner) (all : Text) (enc : Option Text) :
    (encStep I (encInit I enc) all true).map (·.1) = encode I all enc := encStep_oneshot I all enc

/-- a text-level detection, once made on a prefix, is never revised by more text -/
theorem detect_unicode_stable (p q : Text) (f : Bool) (e : Text) (x : Bool)
    (h : detectUnicode p false = (some e, x)) : detectUnicode (p ++ q) f = (some e, x) :=
  (detectU_stable p q f (by rw [h]; rfl)).trans h

/-- a decided text-level detection implies a decided header rewrite -/
theorem detect_unicode_fix (p e e2 : Text) (x : Bool) (h : detectUnicode p false = (some e, x)) :
    (fixEncoding p e2 false).isSome = true := detectU_fix p e2 (by rw [h]; rfl)

/-- **the rewrite is idempotent**: re-fixing a fixed text with any encoding that writes the same
name returns it unchanged — when the written name contains no quote character.  The hypothesis is
needed: see the counterexample below. -/
theorem fix_idempotent (p e e2 t : Text) (f : Bool) (h : fixEncoding p e f = some t)
    (hq : ∀ c ∈ (if isUtf8Sig e then utf8 else e), c ≠ 34)
    (he : (if isUtf8Sig e2 then utf8 else e2) = (if isUtf8Sig e then utf8 else e)) :
    fixEncoding t e2 f = some t := fix_idem p e e2 t f h hq he

/-- counterexample to idempotence for a name with a quote: the second rewrite stops at the quote
inside the name written by the first -/
example : fixEncoding (ofStr "@charset \"x\";") (ofStr "a\"b") true = some (ofStr "@charset \"a\"b\";") ∧
    fixEncoding (ofStr "@charset \"a\"b\";") (ofStr "a\"b") true = some (ofStr "@charset \"a\"b\"b\";") := by
  decide +kernel

/-- **inverse (explicit encoding)**: if the inner codec round-trips, decoding what `encode` produced,
with the same encoding, returns the text up to the `@charset` rewrite.  The name written into the
header must not contain a quote (a registered Python codec name never does); without that the
statement is false, see the counterexample below. -/
theorem encode_decode_explicit (I : Inner)
    (rt : ∀ (e t : Text) (b : Bytes), I.known e = true → I.encodeAll e t = some b → I.decodeAll e b = some t)
    (t e : Text) (b : Bytes) (hq : ∀ c ∈ (if isUtf8Sig e then utf8 else e), c ≠ 34)
    (h : encode I t (some e) = .ok b) :
    decode I b (some e) true = .ok ((fixEncoding t e true).getD t) := by
  -- what `encode` hands to the inner codec is a fixed point of the rewrite
  have hfix : fixEncoding ((fixEncoding t e true).getD t) e true = some ((fixEncoding t e true).getD t) := by
    obtain ⟨t1, h1⟩ := Option.isSome_iff_exists.mp (fix_final t e)
    rw [h1]
    exact fix_idem t e e t1 true h1 hq rfl
  obtain ⟨_, hk, henc⟩ := encodeWith_ok ((encode_some_eq I t e).symm.trans h)
  unfold decode decodeWith
  simp only [Option.isNone_some, Bool.not_true, Bool.or_self, Bool.false_and, Bool.false_eq_true,
    if_false, hk, rt e _ b hk henc, hfix, Option.getD_some]

/-- counterexample to the inverse without the no-quote hypothesis (identity inner codec, which
round-trips and accepts every name): the decoder rewrites the header a second time and does not
return the text `encode` encoded -/
example :
    (encode idInner (ofStr "@charset \"x\";") (some (ofStr "a\"b"))).toOption = some (ofStr "@charset \"a\"b\";") ∧
    (fixEncoding (ofStr "@charset \"x\";") (ofStr "a\"b") true).getD [] = ofStr "@charset \"a\"b\";" ∧
    (decode idInner (ofStr "@charset \"a\"b\";") (some (ofStr "a\"b")) true).toOption
      = some (ofStr "@charset \"a\"b\"b\";") := by decide +kernel

/-! non-vacuity (encoder): the identity inner codec satisfies the laws and the round-trip; a header
is rewritten, encoded, and decoded back; chunked and one-shot runs agree on a concrete input.
Here and below every closed hypothesis is evaluated by the kernel alone; where a theorem states its
text in another form than the example (`(fixEncoding t e true).getD t`, `charsetPrefix ++ e ++ 34 :: rest`),
`.trans` lets the kernel compare the two as well, instead of the unifier -/
example : EncLaw idInner := idInner_encLaw
example : ∀ (e t : Text) (b : Bytes), idInner.known e = true → idInner.encodeAll e t = some b →
    idInner.decodeAll e b = some t := idInner_roundtrip
example : ∀ c ∈ (if isUtf8Sig (ofStr "latin-1") then utf8 else ofStr "latin-1"), c ≠ 34 := by decide +kernel
example : (encode idInner (ofStr "@charset \"x\";a") (some (ofStr "latin-1"))).toOption
    = some (ofStr "@charset \"latin-1\";a") := by decide +kernel
example : decode idInner (ofStr "@charset \"latin-1\";a") (some (ofStr "latin-1")) true
    = .ok (ofStr "@charset \"latin-1\";a") :=
  (encode_decode_explicit idInner idInner_roundtrip (ofStr "@charset \"x\";a") (ofStr "latin-1")
    (ofStr "@charset \"latin-1\";a") (by decide +kernel) (by decide +kernel)).trans (by decide +kernel)
example : ((encFeed idInner (encInit idInner (some (ofStr "UTF_8_sig")))
      [ofStr "@char", ofStr "set \"x", ofStr "\";a"]).map (·.1)).toOption
    = some (ofStr "@charset \"utf-8\";a") := by decide +kernel
example : ((encFeed idInner (encInit idInner none) [ofStr "@char", ofStr "set \"utf-8-sig", ofStr "\";a"]).map (·.1)).toOption
    = some (ofStr "@charset \"utf-8\";a") := by decide +kernel
example : detectUnicode (ofStr "@charset \"x\"") false = (some (ofStr "x"), true) := by decide +kernel

/-! ### the inverse when the DECODER gets no encoding argument -/

/-- **inverse, text with an `@charset` head**: the text starts with a complete `@charset "e"` rule,
`encode` (no encoding argument) therefore encodes it with `e`; if the inner codec for `e` is
ASCII-transparent, `decode` (no encoding argument, any `force`) finds the same head in the bytes,
decodes with `e`, rewrites the head to `e` — the identity — and returns the text itself.

Hypotheses: the name has no quote (else the head ends earlier; automatically true when the head was
found by `detectUnicode`, see `encode_decode_charset_detected`), is ASCII (that is what makes it
appear verbatim in the bytes; Python codec names are ASCII), and is not a spelling of `utf-8-sig`
(false then: see `encode_decode_charset_sig` and the counterexamples below).  That `e` is not the
css codec's own name follows from `encode` having succeeded. -/
theorem encode_decode_charset (I : Inner) (e rest : Text) (b : Bytes) (tr : AsciiTransparent I e)
    (hq : ∀ c ∈ e, c ≠ 34) (ha : ∀ c ∈ e, c < 128) (hs : isUtf8Sig e = false)
    (h : encode I (charsetPrefix ++ e ++ 34 :: rest) none = .ok b) (force : Bool) :
    decode I b none force = .ok (charsetPrefix ++ e ++ 34 :: rest) :=
  encode_decode_head I e rest b tr hq ha hs h force

/-- the same, the head being described by what the text-level detector says about the text -/
theorem encode_decode_charset_detected (I : Inner) (t e : Text) (b : Bytes)
    (hdet : detectUnicode t true = (some e, true)) (tr : AsciiTransparent I e)
    (ha : ∀ c ∈ e, c < 128) (hs : isUtf8Sig e = false)
    (h : encode I t none = .ok b) (force : Bool) :
    decode I b none force = .ok t := by
  obtain ⟨rest, ht, hq⟩ := detectU_explicit hdet
  subst ht
  exact encode_decode_head I e rest b tr hq ha hs h force

/-- **`utf-8-sig` heads**: the encoder writes `utf-8` into the head and a byte-order mark in front;
the decoder answers `utf-8-sig` because of the mark and writes `utf-8` again.  The text comes back
with its head renamed to `utf-8` — the inverse holds up to the rewrite, not exactly. -/
theorem encode_decode_charset_sig (I : Inner) (e rest : Text) (b : Bytes) (sc : SigCodec I e)
    (hq : ∀ c ∈ e, c ≠ 34) (hs : isUtf8Sig e = true)
    (h : encode I (charsetPrefix ++ e ++ 34 :: rest) none = .ok b) (force : Bool) :
    decode I b none force = .ok (charsetPrefix ++ utf8 ++ 34 :: rest) := by
  simp only [encode_none_eq, chosenEnc_head e rest hq, hs, if_true, fix_head e rest utf8 true hq,
    written_utf8, Option.getD_some] at h
  have henc := (encodeWith_ok h).2.2
  obtain ⟨b', hb'⟩ := sc.bom _ _ henc
  have hd : (detectStr b true).1 = some (ofStr "utf-8-sig") := by rw [hb', detect_bom]
  rw [decode_none_of_detect I b (ofStr "utf-8-sig") _ force hd (by decide +kernel) sc.known_sig
      (sc.roundtrip _ _ henc),
    fix_head utf8 rest (ofStr "utf-8-sig") true utf8_noquote, written_sig sig_isSig]
  rfl

/-- the answer of the byte detector decides everything when no encoding is given -/
theorem decode_none_detected (I : Inner) (b : Bytes) (e : Text) (force : Bool)
    (hd : (detectStr b true).1 = some e) :
    decode I b none force = if isCss e then .error .value else decodeWith I e b :=
  decode_none_eq I b e force hd

/-- **inverse, text without a complete head** (no head at all, or an unterminated one): `encode`
uses UTF-8; if the byte detector answers UTF-8 for the bytes, `decode` returns the text.  By
`decode_none_detected` the hypothesis on the bytes is also necessary for the UTF-8 decoder to be
called at all. -/
theorem encode_decode_default_detect (I : Inner) (t : Text) (b : Bytes) (tr : AsciiTransparent I utf8)
    (hn : (detectUnicode t true).2 = false) (h : encode I t none = .ok b)
    (hd : (detectStr b true).1 = some utf8) (force : Bool) :
    decode I b none force = .ok t :=
  encode_decode_nohead I t b tr hn h hd force

/-- … in particular when the bytes fit no byte-order mark, no UTF-16/32 `@` and no `@cha` -/
theorem encode_decode_default (I : Inner) (t : Text) (b : Bytes) (tr : AsciiTransparent I utf8)
    (hn : (detectUnicode t true).2 = false) (h : encode I t none = .ok b)
    (hc : cands b = []) (force : Bool) :
    decode I b none force = .ok t :=
  encode_decode_nohead I t b tr hn h (by rw [detect_cands_nil true hc]) force

/-- … which can be read off the text: some ASCII prefix `p` of it already excludes every candidate
(`cands p = []` is decidable: `"a"`, `"@i"`, `"@m"`, `"@co"`, `"/*"` …) -/
theorem encode_decode_default_prefix (I : Inner) (p r : Text) (b : Bytes) (tr : AsciiTransparent I utf8)
    (hn : (detectUnicode (p ++ r) true).2 = false) (h : encode I (p ++ r) none = .ok b)
    (hp : ∀ c ∈ p, c < 128) (hc : cands p = []) (force : Bool) :
    decode I b none force = .ok (p ++ r) :=
  encode_decode_prefix I p r b tr hn h hp hc force

/-- … for instance: the first character is ASCII, not NUL and not `@` (no hypothesis on the bytes,
none on the rest of the text) -/
theorem encode_decode_default_first (I : Inner) (c : Nat) (r : Text) (b : Bytes) (tr : AsciiTransparent I utf8)
    (h128 : c < 128) (h0 : c ≠ 0) (h64 : c ≠ 64) (h : encode I (c :: r) none = .ok b) (force : Bool) :
    decode I b none force = .ok (c :: r) :=
  encode_decode_prefix I [c] r b tr (detectU_first c r h64) h
    (by intro x hx; rw [List.mem_singleton.mp hx]; exact h128) (cands_first c h128 h0 h64) force

/-! non-vacuity: the identity codec and the toy UTF-8 codec (`toyInner`: ASCII and U+FEFF, BOM for
the `utf-8-sig` spellings, no other name known) are ASCII-transparent; concrete texts go through -/
example (e : Text) : AsciiTransparent idInner e := idInner_transparent e
example : AsciiTransparent toyInner (ofStr "UTF_8") := toyInner_transparent _ (by decide +kernel)
example : SigCodec toyInner (ofStr "UTF_8_sig") := toyInner_sig _ (by decide +kernel)

example : (encode idInner (ofStr "@charset \"Latin-1\";a") none).toOption = some (ofStr "@charset \"Latin-1\";a") := by decide +kernel
example : decode idInner (ofStr "@charset \"Latin-1\";a") none true = .ok (ofStr "@charset \"Latin-1\";a") :=
  (encode_decode_charset idInner (ofStr "Latin-1") (ofStr ";a") _ (idInner_transparent _)
    (by decide +kernel) (by decide +kernel) (by decide +kernel) (by decide +kernel) true).trans (by decide +kernel)
/-- a head immediately followed by the end of the text; an upper-case, underscore spelling is kept -/
example : decode toyInner (ofStr "@charset \"UTF_8\"") none true = .ok (ofStr "@charset \"UTF_8\"") :=
  encode_decode_charset_detected toyInner (ofStr "@charset \"UTF_8\"") (ofStr "UTF_8") _ (by decide +kernel)
    (toyInner_transparent _ (by decide +kernel)) (by decide +kernel) (by decide +kernel) (by decide +kernel) true
example : (encode toyInner (ofStr "@charset \"UTF_8\"") none).toOption = some (ofStr "@charset \"UTF_8\"") := by decide +kernel
/-- the empty name is a name, too (the identity codec knows it) -/
example : decode idInner (ofStr "@charset \"\";") none true = .ok (ofStr "@charset \"\";") :=
  (encode_decode_charset idInner [] (ofStr ";") _ (idInner_transparent _)
    (by decide +kernel) (by decide +kernel) (by decide +kernel) (by decide +kernel) true).trans (by decide +kernel)
/-- `utf-8-sig`: BOM in the bytes, `utf-8` in the head that comes back -/
example : (encode toyInner (ofStr "@charset \"UTF_8_sig\";a") none).toOption
    = some (0xEF :: 0xBB :: 0xBF :: ofStr "@charset \"utf-8\";a") := by decide +kernel
example : decode toyInner (0xEF :: 0xBB :: 0xBF :: ofStr "@charset \"utf-8\";a") none true
    = .ok (ofStr "@charset \"utf-8\";a") :=
  (encode_decode_charset_sig toyInner (ofStr "UTF_8_sig") (ofStr ";a") _ (toyInner_sig _ (by decide +kernel))
    (by decide +kernel) (by decide +kernel) (by decide +kernel) true).trans (by decide +kernel)
/-- no head -/
example : decode toyInner (ofStr "a{}") none true = .ok (ofStr "a{}") :=
  encode_decode_default_first toyInner 97 (ofStr "{}") _ (toyInner_transparent _ (by decide +kernel))
    (by decide +kernel) (by decide +kernel) (by decide +kernel) (by decide +kernel) true
example : decode toyInner (ofStr "@import \"x\";") none true = .ok (ofStr "@import \"x\";") :=
  (encode_decode_default_prefix toyInner (ofStr "@i") (ofStr "mport \"x\";") _ (toyInner_transparent _ (by decide +kernel))
    (by decide +kernel) (by decide +kernel) (by decide +kernel) (by decide +kernel) true).trans (by decide +kernel)
/-- an unterminated head is UTF-8 text like any other -/
example : decode toyInner (ofStr "@charset \"abc") none true = .ok (ofStr "@charset \"abc") :=
  encode_decode_default_detect toyInner (ofStr "@charset \"abc") _ (toyInner_transparent _ (by decide +kernel))
    (by decide +kernel) (by decide +kernel) (by decide +kernel) true

/-! counterexamples (kernel-checked): where encode → decode does NOT return the text -/

/-- **a leading U+FEFF is lost.**  The text has no head, the toy UTF-8 codec is ASCII-transparent and
round-trips on these very bytes, but the three bytes of U+FEFF are the UTF-8 byte-order mark: the
detector answers `utf-8-sig`, whose decoder drops them.  So the hypothesis on the bytes in
`encode_decode_default_detect` cannot be dropped. -/
example :
    (detectUnicode (0xFEFF :: ofStr "a{}") true).2 = false ∧
    (encode toyInner (0xFEFF :: ofStr "a{}") none).toOption = some (0xEF :: 0xBB :: 0xBF :: ofStr "a{}") ∧
    toyInner.decodeAll utf8 (0xEF :: 0xBB :: 0xBF :: ofStr "a{}") = some (0xFEFF :: ofStr "a{}") ∧
    detectStr (0xEF :: 0xBB :: 0xBF :: ofStr "a{}") true = (some (ofStr "utf-8-sig"), true) ∧
    (decode toyInner (0xEF :: 0xBB :: 0xBF :: ofStr "a{}") none true).toOption = some (ofStr "a{}") := by decide +kernel

/-- **texts with NUL characters that look like a UTF-16/32 `@`**: `"@\0c\0"` is encoded as the same
four UTF-8 bytes, which the detector takes for UTF-16-LE (`"\0@"`: UTF-16-BE, `"@\0\0\0"`:
UTF-32-LE, `"\0\0\0@"`: UTF-32-BE); the toy codec does not know these names, so decoding fails with
a lookup error (Python would decode `"@\0c\0"` to `"@c"`) -/
example :
    (encode toyInner [64, 0, 99, 0] none).toOption = some [64, 0, 99, 0] ∧
    detectStr [64, 0, 99, 0] true = (some (ofStr "utf-16-le"), false) ∧
    decode toyInner [64, 0, 99, 0] none true = .error .lookup ∧
    detectStr [0, 64] true = (some (ofStr "utf-16-be"), false) ∧
    detectStr [64, 0, 0, 0] true = (some (ofStr "utf-32-le"), false) ∧
    detectStr [0, 0, 0, 64] true = (some (ofStr "utf-32-be"), false) :=
  ⟨by decide +kernel, by decide +kernel, by decide +kernel, by decide +kernel, by decide +kernel, by decide +kernel⟩

/-- **`utf-8-sig` heads do not come back as they were** — even with the identity codec, which is
ASCII-transparent for every name: `encode` itself renames the head to `utf-8`.  So `hs` in
`encode_decode_charset` cannot be dropped. -/
example :
    (encode idInner (ofStr "@charset \"utf-8-sig\";a") none).toOption = some (ofStr "@charset \"utf-8\";a") ∧
    (decode idInner (ofStr "@charset \"utf-8\";a") none true).toOption = some (ofStr "@charset \"utf-8\";a") := by decide +kernel

/-- the css codec's own name in the head: `encode` refuses, in any letter case -/
example : encode idInner (ofStr "@charset \"CSS\";a") none = .error .value := by decide +kernel

end CssVerif.C14
