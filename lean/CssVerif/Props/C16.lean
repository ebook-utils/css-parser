/-
C16 — Selector specificity equals the CSS definition.

`Model/Selector.lean` transcribes `Selector._setSelectorText` of /repo: the token pre-pass, the
`append()` bookkeeping (prefix resolution, specificity counters keyed on context and item type), every
production with its `expected` string and context stack, and the post-conditions.
`Model/SelectorAst.lean` is the specification: the level-3 selector grammar as an inductive type, the CSS
definition of specificity on it, and its rendering to the (merged) token stream.

`specificity` is proved, for every `σ` with `σ.WF` (declared prefixes, normalised pseudo names), by induction
over the grammar: every simple selector, `:not(x)` for every simple
kind, functional pseudo-classes with any argument list, attribute selectors with every operator / value /
prefix form, namespaced type and universal selectors, pseudo-elements in both notations, and compound
sequences joined by any combinators with any whitespace layout — no bound on length or nesting.

Tie to the code: the `sel` correspondence runs the real tokenizer + Selector and the tokenizer model +
this state machine on the same selector texts (items, specificity, verdict compared), so the rendering
`Sel.toks` of the grammar is exercised against what the real tokenizer and pre-pass produce.

From the selector TEXT (second half of this file, lemmas in `Proofs/SelectorText.lean`): `Sel.lex` writes a
selector of the grammar as a sequence of C09 lexemes (identifiers, `#name`, `. : [ ] ( ) * |`, `> + ~`, one
blank for the descendant combinator and for each blank of a combinator's `Layout`, FUNCTION lexemes for
functional pseudo-classes and `:not(`, match operators, identifier / string attribute values, numbers /
dimensions / identifiers / strings / `+` / `-` / blanks as arguments); `Sel.text` is the concatenation of
their texts, which is the concatenation of the values of `σ.toks` (`text_is_token_values`).  For every `σ`
with the decidable lexical side condition `σ.NamesOK` (escape-free names spelled as the token values say,
non-empty compounds, argument lexemes that cannot merge, no `u+` / `+.` at a `+` written without blanks, no
byte-order mark):
  * `lexemes_classify`   the lexemes meet the hypotheses of `C09.classify_sequence`;
  * `tokens_from_text`   tokenizer model on `σ.text`, then the pre-pass = `σ.toks`;
  * `specificity_from_text`   tokenizer model on `σ.text`, then `Selector.parse` (pre-pass, state machine,
                         post-conditions): well-formed, no error, specificity = the CSS definition `σ.spec`.
Every extra condition of `NamesOK` has a kernel-checked example below (`u+b` is a UNICODE-RANGE for the
tokenizer and the selector is REJECTED — true of /repo as well; `:not(` as a functional pseudo-class name;
`2n` `-1` without a blank; a leading `þÿ`); `a+.c` shows the one condition that is stronger than necessary
(inherited from the one-character stop condition `C09.ctxStop` of the delimiter `+`).

Layouts (third part of this file, lemmas in `Proofs/SelectorLayout.lean`): at every place where `Sel` has white
space — the descendant combinator, the `before` / `after` blanks of an explicit combinator, `ArgTok.ws` among
the arguments of a functional pseudo-class — `Sel.textWith sp σ` writes an arbitrary non-empty run of the
characters of the S production of `Gen.tables` (space, tab, LF, FF, CR: `C09.gen_S_first`), taken from the
list `sp` in text order (`Spacing`, decidable condition `sp.all wsRunOK`).  `specificity_from_text_layout`
is `specificity_from_text` for every such layout; it rests on `s_value_ignored` (the state machine never
looks at the value of an S token), `prepass_normS` (the pre-pass commutes with forgetting S values) and
`lexemes_classify_layout`.

Partial: white space only where `Sel` has it (the model drops S inside `[…]` and `:not(…)`, but `Sel` has no
place for it) and NO comments: a COMMENT token is an item of its own for the state machine
(`step_comment`), it blocks the merges of the pre-pass, it consumes a pending namespace prefix
(`*|/**/a` is read as `a`, example below) and `a/**/b` is rejected, so comments need a token rendering of
their own, see the note before `step_comment` in `Proofs/SelectorLayout.lean`; names
are escape-free and, as in `Sel.WF`, pseudo names are in normal form (lower case) and the negation is spelled
`:not(`; "unchanged by serialising and re-parsing" and the @page triple are decided by the oracle on the
implementation (`harness/props/c16.py`).
-/
import CssVerif.Proofs.Selector
import CssVerif.Proofs.SelectorText
import CssVerif.Proofs.SelectorLayout
import CssVerif.Gen.Productions
namespace CssVerif.C16
open CssVerif CssVerif.Selector

/-- obligation on the regenerated tables: `:not(` is its own normal form -/
theorem not_norm : NotNorm Gen.tables := by unfold NotNorm; decide +kernel

/-- **C16.**  For every selector `σ` of the level-3 grammar (well-formed: declared prefixes, normalised
pseudo names) the selector state machine of /repo accepts it without an error and reports exactly
(ids, classes + attributes + pseudo-classes, types + pseudo-elements) as the CSS definition gives. -/
theorem specificity (m : NsMap) (σ : Sel) (hw : σ.WF Gen.tables m) :
    (Selector.finish (run Gen.tables m σ.toks)).wellformed = true ∧
    (Selector.finish (run Gen.tables m σ.toks)).firstErr = "" ∧
    (Selector.finish (run Gen.tables m σ.toks)).spec = σ.spec :=
  run_sel Gen.tables m not_norm σ hw

/-- the same for any tokenizer tables that normalise `:not(` to itself -/
theorem specificity_any_tables (T : Tables) (hnn : NotNorm T) (m : NsMap) (σ : Sel) (hw : σ.WF T m) :
    (Selector.finish (run T m σ.toks)).spec = σ.spec := (run_sel T m hnn σ hw).2.2

/-- the universal selector, the negation itself and `:where()` count nothing; the argument of `:not()`
counts as its own kind (the definition side, spelled out) -/
theorem definition_cases (p : Pfx) (n v : Text) (a : ArgTok) (as : List ArgTok) :
    (Head.universal p).spec = (0, 0, 0) ∧ (Part.neg (.type p n)).spec = (0, 0, 1) ∧
    (Part.neg (.universal p)).spec = (0, 0, 0) ∧ (Part.neg (.simple (.id v))).spec = (1, 0, 0) ∧
    (Part.neg (.simple (.cls v))).spec = (0, 1, 0) ∧ (Simple.pfunc (str ":where(") a as).spec = (0, 0, 0) := by
  refine ⟨rfl, rfl, rfl, rfl, rfl, ?_⟩
  simp [Simple.spec]

/-! ### non-vacuity: a concrete selector using every construct meets the hypotheses -/

def exNs : NsMap := [(str "p", str "u1"), (str "q", str "u2")]

/-- `p|a#i.c[q|x~="v"]:hover:nth-child(2n+1):not(.d)::after > *|b:not(|e):before` -/
def exSel : Sel :=
  { first := { head := some (.type (.named (str "p")) (str "a")),
               parts := [.simple (.id (str "#i")), .simple (.cls (str ".c")),
                         .simple (.attrib (some (str "q")) (str "x") (some (.inc, .string (str "\"v\"")))),
                         .simple (.pclass (str ":hover")),
                         .simple (.pfunc (str ":nth-child(") (.dimension (str "2n")) [.number (str "+1")]),
                         .neg (.simple (.cls (str ".d")))],
               pelem := some (.dbl (str "::after")) },
    rest := [(.child, ⟨true, true⟩,
              { head := some (.type .any (str "b")), parts := [.neg (.type .empty (str "e"))],
                pelem := some (.legacy (str ":before")) })] }

theorem exSel_wf : exSel.WF Gen.tables exNs := by
  refine ⟨⟨?_, ?_, ?_, ?_⟩, ?_⟩
  · intro h hh; cases hh; exact ⟨by decide +kernel, by decide +kernel, by decide +kernel, by decide +kernel⟩
  · intro p hp
    simp only [exSel, List.mem_cons, List.not_mem_nil, or_false] at hp
    rcases hp with rfl | rfl | rfl | rfl | rfl | rfl
    · trivial
    · trivial
    · exact Or.inr (Or.inr (by decide +kernel))
    · exact ⟨by decide +kernel, by decide +kernel, by decide +kernel⟩
    · exact ⟨by decide +kernel, by decide +kernel, by decide +kernel, by decide +kernel⟩
    · trivial
  · intro e he; cases he; exact ⟨by decide +kernel, by decide +kernel, by decide +kernel⟩
  · exact Or.inl rfl
  · intro x hx
    simp only [exSel, List.mem_cons, List.not_mem_nil, or_false] at hx
    subst hx
    refine ⟨?_, ?_, ?_, ?_⟩
    · intro h hh; cases hh; trivial
    · intro p hp
      simp only [List.mem_cons, List.not_mem_nil, or_false] at hp
      subst hp; trivial
    · intro e he; cases he; exact ⟨by decide +kernel, by decide +kernel⟩
    · exact Or.inl rfl

theorem exSel_spec : exSel.spec = (1, 5, 5) := by decide +kernel

/-- … so, by the theorem, the state machine run on its tokens reports that triple -/
theorem exSel_run : (Selector.finish (run Gen.tables exNs exSel.toks)).spec = (1, 5, 5) :=
  (specificity exNs exSel exSel_wf).2.2.trans exSel_spec

theorem exSel_text_eq :
    exSel.text = str "p|a#i.c[q|x~=\"v\"]:hover:nth-child(2n+1):not(.d)::after > *|b:not(|e):before" := by
  decide +kernel

/-- the rendering of the grammar is what the tokenizer model and the pre-pass produce from the text
(a kernel-evaluated instance; the `sel` correspondence checks the same on every generated selector) -/
theorem exSel_text :
    prepass Gen.tables ((tokenize Gen.tables ⟨false, true⟩
      (str "p|a#i.c[q|x~=\"v\"]:hover:nth-child(2n+1):not(.d)::after > *|b:not(|e):before")).toks.map
        (fun k => (TT.ofString k.typ, k.val))) = exSel.toks := by
  -- the string literal is evaluated once, in `exSel_text_eq`
  rw [← exSel_text_eq]
  decide +kernel

/-! ## from the selector TEXT to the specificity -/

open CssVerif.C09 (Lexeme canFollow chain ratioFree)

/-- **(i)** the lexeme sequence of a selector meets the hypotheses of `C09.classify_sequence`: every lexeme
is generated by the token grammar, adjacent lexemes cannot merge, no RATIO, no byte-order mark -/
theorem lexemes_classify (σ : Sel) (hn : σ.NamesOK = true) :
    (∀ l ∈ σ.lex, l.wf = true) ∧ chain canFollow σ.lex = true ∧ ratioFree none σ.lex = true ∧
      startsWithBom σ.text = false :=
  lex_classify σ hn

/-- the text written for `σ` is the concatenation of the values of its (merged) tokens -/
theorem text_is_token_values (σ : Sel) (hn : σ.NamesOK = true) : σ.text = σ.toks.flatMap (·.2) :=
  lex_text σ hn

/-- **(ii)** the tokenizer model, run on the selector text, followed by the token pre-pass of
`_setSelectorText`, returns exactly the token rendering `σ.toks` that `specificity` starts from -/
theorem tokens_from_text (σ : Sel) (hn : σ.NamesOK = true) :
    prepass Gen.tables ((tokenize Gen.tables ⟨false, true⟩ σ.text).toks.map
      (fun k => (TT.ofString k.typ, k.val))) = σ.toks :=
  (congrArg (prepass Gen.tables) (tokenize_lexemes σ.lex (lex_classify σ hn))).trans (prepass_lex σ hn)

/-- **C16 from the text (iii).**  For every selector `σ` of the level-3 grammar that is well-formed
(`σ.WF`: declared prefixes, normalised pseudo names) and whose names are lexically fine (`σ.NamesOK`), the
tokenizer model run on the selector TEXT followed by the whole of `Selector._setSelectorText` (pre-pass,
state machine, post-conditions) accepts it without an error and reports the specificity of the CSS
definition. -/
theorem specificity_from_text (m : NsMap) (σ : Sel) (hw : σ.WF Gen.tables m) (hn : σ.NamesOK = true) :
    (parse Gen.tables m ((tokenize Gen.tables ⟨false, true⟩ σ.text).toks.map
      (fun k => (TT.ofString k.typ, k.val)))).wellformed = true ∧
    (parse Gen.tables m ((tokenize Gen.tables ⟨false, true⟩ σ.text).toks.map
      (fun k => (TT.ofString k.typ, k.val)))).firstErr = "" ∧
    (parse Gen.tables m ((tokenize Gen.tables ⟨false, true⟩ σ.text).toks.map
      (fun k => (TT.ofString k.typ, k.val)))).spec = σ.spec := by
  unfold parse
  rw [tokens_from_text σ hn]
  exact specificity m σ hw

/-! ### non-vacuity: the example selector, from its text -/

theorem exSel_names : exSel.NamesOK = true := by decide +kernel

/-- the text of the example goes through tokenizer, pre-pass, state machine and post-conditions to
(1, 5, 5) — by the theorem -/
theorem exSel_from_text :
    (parse Gen.tables exNs ((tokenize Gen.tables ⟨false, true⟩
      (str "p|a#i.c[q|x~=\"v\"]:hover:nth-child(2n+1):not(.d)::after > *|b:not(|e):before")).toks.map
        (fun k => (TT.ofString k.typ, k.val)))).spec = (1, 5, 5) := by
  rw [← exSel_text_eq]
  exact (specificity_from_text exNs exSel exSel_wf exSel_names).2.2.trans exSel_spec

/-- … and by running the executable models (a test, labelled as one) -/
example :
    (parse Gen.tables exNs ((tokenize Gen.tables ⟨false, true⟩
      (str "p|a#i.c[q|x~=\"v\"]:hover:nth-child(2n+1):not(.d)::after > *|b:not(|e):before")).toks.map
        (fun k => (TT.ofString k.typ, k.val)))).spec = (1, 5, 5) := by
  -- the tokens are those evaluated in `exSel_text`; the state machine is run on them
  unfold parse
  rw [exSel_text]
  decide +kernel

/-! ### the conditions of `NamesOK` are needed (kernel-checked) -/

/-- the type selector `n` alone -/
def tp (n : Text) : Compound := { head := some (.type .none n), parts := [], pelem := none }

theorem tp_wf (m : NsMap) (n : Text) : (tp n).WF Gen.tables m :=
  ⟨fun h hh => (by cases hh; trivial), fun p hp => (by cases hp), fun e he => (by cases he), Or.inl rfl⟩

/-- what `_setSelectorText` (model) says about the text of `σ`: verdict, first error, specificity -/
def verdict (m : NsMap) (σ : Sel) : Bool × String × Spec :=
  let r := parse Gen.tables m ((tokenize Gen.tables ⟨false, true⟩ σ.text).toks.map (fun k => (TT.ofString k.typ, k.val)))
  (r.wellformed, r.firstErr, r.spec)

/-- `u+b` (type selector `u`, adjacent sibling `b`, no blanks) -/
def exU : Sel := { first := tp (str "u"), rest := [(.adjacent, ⟨false, false⟩, tp (str "b"))] }
theorem exU_wf : exU.WF Gen.tables [] :=
  ⟨tp_wf _ _, fun x hx => (by
    simp only [exU, List.mem_cons, List.not_mem_nil, or_false] at hx; subst hx; exact tp_wf _ _)⟩
/-- **`u+` at a combinator without blanks.**  `u+b` is a well-formed selector of the grammar with
specificity (0, 0, 2), but the tokenizer reads the text `u+b` as one UNICODE-RANGE token and the selector
is rejected (so does /repo: `Selector('u+b')` raises SyntaxErr) -/
example : exU.NamesOK = false ∧ exU.spec = (0, 0, 2) ∧ verdict [] exU = (false, "SyntaxErr", (0, 0, 0)) := by
  decide +kernel
/-- … with a blank before the `+` (`u +b`) the side condition holds and the theorem applies -/
example : ({ exU with rest := [(.adjacent, ⟨true, false⟩, tp (str "b"))] } : Sel).NamesOK = true := by decide +kernel

/-- `:not(a)` as a *functional pseudo-class* named `not` -/
def exNotF : Sel :=
  { first := { head := none, parts := [.simple (.pfunc (str ":not(") (.ident (str "a")) [])], pelem := none }, rest := [] }
theorem exNotF_wf : exNotF.WF Gen.tables [] := by
  refine ⟨⟨fun h hh => (by cases hh), ?_, fun e he => (by cases he), Or.inr (Or.inl (by decide +kernel))⟩,
    fun x hx => (by cases hx)⟩
  intro p hp
  simp only [exNotF, List.mem_cons, List.not_mem_nil, or_false] at hp
  subst hp
  exact ⟨by decide +kernel, by decide +kernel, by decide +kernel, by decide +kernel⟩
/-- **the name of a functional pseudo-class is not `not`.**  The token list `(pclass ":not(") (ident a) )`
satisfies `Sel.WF` and counts (0, 1, 0), but its text `:not(a)` is the negation of a type selector: the
pre-pass does not return these tokens and the specificity is (0, 0, 1) -/
example : exNotF.NamesOK = false ∧ exNotF.spec = (0, 1, 0) ∧ verdict [] exNotF = (true, "", (0, 0, 1)) := by
  decide +kernel

/-- `:nth-child(2n-1)` given as the two argument tokens `2n` and `-1` -/
def exArgs : Sel :=
  { first := { head := none,
               parts := [.simple (.pfunc (str ":nth-child(") (.dimension (str "2n")) [.number (str "-1")])],
               pelem := none }, rest := [] }
/-- **adjacent arguments must not merge.**  `2n` `-1` written without a blank is the one DIMENSION `2n-1`:
the tokens of the text are not the given ones (the specificity is not affected) -/
example : exArgs.NamesOK = false ∧
    prepass Gen.tables ((tokenize Gen.tables ⟨false, true⟩ exArgs.text).toks.map
      (fun k => (TT.ofString k.typ, k.val))) ≠ exArgs.toks := by
  decide +kernel

/-- **no byte-order mark.**  The type selector `þÿ` is an identifier by the grammar, but at the start of
the text the tokenizer takes it as a BOM and the selector is rejected -/
example : ({ first := tp [254, 255], rest := [] } : Sel).NamesOK = false ∧
    verdict [] { first := tp [254, 255], rest := [] } = (false, "SyntaxErr", (0, 0, 0)) := by
  decide +kernel

/-- `a+.c` -/
def exDot : Sel :=
  { first := tp (str "a"),
    rest := [(.adjacent, ⟨false, false⟩, { head := none, parts := [.simple (.cls (str ".c"))], pelem := none })] }
/-- **`+.` is excluded but harmless** (the one condition of `NamesOK` that is stronger than necessary): the
text `a+.c` is outside the hypotheses of `C09.classify_sequence` (`ctxStop` wants no `.` right after the
delimiter `+`), yet the models return the expected specificity; `a+ .c` and `a + .c` are covered -/
example : exDot.NamesOK = false ∧ verdict [] exDot = (true, "", exDot.spec) ∧
    ({ exDot with rest := [(.adjacent, ⟨false, true⟩, { head := none, parts := [.simple (.cls (str ".c"))], pelem := none })] } : Sel).NamesOK = true := by
  decide +kernel

/-! ## any layout: arbitrary non-empty white-space runs where the grammar has white space -/

/-- the state machine of `_setSelectorText` never looks at the VALUE of an S token -/
theorem s_value_ignored (T : Tables) (m : NsMap) (st : Selector.St) (v w : Text) :
    Selector.step T m st (.s, v) = Selector.step T m st (.s, w) :=
  step_s_value T m st v w

/-- with the empty spacing every place keeps its single blank: `textWith` generalises `text` -/
theorem textWith_nil (σ : Sel) : σ.textWith [] = σ.text := by
  have : ∀ ls : List Lexeme, respace [] ls = ls := by
    intro ls
    induction ls with
    | nil => rfl
    | cons l ls ih => cases l <;> simp [respace, isWsLex, ih]
  simp [Sel.textWith, Sel.lexWith, Sel.text, this]

/-- the laid-out lexeme sequence meets the hypotheses of `C09.classify_sequence` -/
theorem lexemes_classify_layout (σ : Sel) (hn : σ.NamesOK = true) (sp : Spacing) (hsp : sp.all wsRunOK = true) :
    (∀ l ∈ σ.lexWith sp, l.wf = true) ∧ chain canFollow (σ.lexWith sp) = true ∧
      ratioFree none (σ.lexWith sp) = true ∧ startsWithBom (σ.textWith sp) = false :=
  lexWith_classify σ hn sp hsp

/-- the tokens of the laid-out text, as the selector parser sees them -/
theorem tokens_of_layout (σ : Sel) (hn : σ.NamesOK = true) (sp : Spacing) (hsp : sp.all wsRunOK = true) :
    (tokenize Gen.tables ⟨false, true⟩ (σ.textWith sp)).toks.map (fun k => (TT.ofString k.typ, k.val)) =
      (σ.lexWith sp).map tokOf :=
  tokenize_lexemes (σ.lexWith sp) (lexWith_classify σ hn sp hsp)

/-- tokenizer model on the laid-out text, then the pre-pass: the token rendering `σ.toks` of the grammar,
up to the values of the S tokens (`normS` gives every S token the value of one blank) -/
theorem tokens_from_text_layout (σ : Sel) (hn : σ.NamesOK = true) (sp : Spacing) (hsp : sp.all wsRunOK = true) :
    (prepass Gen.tables ((tokenize Gen.tables ⟨false, true⟩ (σ.textWith sp)).toks.map
      (fun k => (TT.ofString k.typ, k.val)))).map normS = σ.toks.map normS := by
  rw [tokens_of_layout σ hn sp hsp]
  exact prepass_lexWith σ hn sp hsp

/-- **C16 from the text, any layout.**  Let `σ` be a well-formed selector of the level-3 grammar whose names
are lexically fine, and let `sp` choose a non-empty run of white-space characters (space, tab, LF, FF, CR)
for the white-space places of `σ` (descendant combinators, the blanks around explicit combinators that the
`Layout` flags ask for, the blanks among the arguments of functional pseudo-classes), in text order.  The
tokenizer model run on the laid-out text followed by the whole of `Selector._setSelectorText` accepts it
without an error and reports the specificity of the CSS definition. -/
theorem specificity_from_text_layout (m : NsMap) (σ : Sel) (hw : σ.WF Gen.tables m) (hn : σ.NamesOK = true)
    (sp : Spacing) (hsp : sp.all wsRunOK = true) :
    (parse Gen.tables m ((tokenize Gen.tables ⟨false, true⟩ (σ.textWith sp)).toks.map
      (fun k => (TT.ofString k.typ, k.val)))).wellformed = true ∧
    (parse Gen.tables m ((tokenize Gen.tables ⟨false, true⟩ (σ.textWith sp)).toks.map
      (fun k => (TT.ofString k.typ, k.val)))).firstErr = "" ∧
    (parse Gen.tables m ((tokenize Gen.tables ⟨false, true⟩ (σ.textWith sp)).toks.map
      (fun k => (TT.ofString k.typ, k.val)))).spec = σ.spec := by
  unfold parse
  rw [tokens_of_layout σ hn sp hsp, run_lexWith m σ hn sp hsp]
  exact specificity m σ hw

/-! ### non-vacuity: tabs, newlines, form feeds -/

/-- `a b:nth-child(2n + 1)`: a descendant combinator and two blanks among the arguments -/
def exLay : Sel :=
  { first := tp (str "a"),
    rest := [(.descendant, ⟨false, false⟩,
              { head := some (.type .none (str "b")),
                parts := [.simple (.pfunc (str ":nth-child(") (.dimension (str "2n"))
                            [.ws, .plus, .ws, .number (str "1")])],
                pelem := none })] }

theorem exLay_wf : exLay.WF Gen.tables [] := by
  refine ⟨tp_wf _ _, fun x hx => ?_⟩
  simp only [exLay, List.mem_cons, List.not_mem_nil, or_false] at hx
  subst hx
  refine ⟨fun h hh => (by cases hh; trivial), ?_, fun e he => (by cases he), Or.inl rfl⟩
  intro p hp
  simp only [List.mem_cons, List.not_mem_nil, or_false] at hp
  subst hp
  exact ⟨by decide +kernel, by decide +kernel, by decide +kernel, by decide +kernel⟩

theorem exLay_names : exLay.NamesOK = true := by decide +kernel

/-- tab tab / LF / blank CR LF for the three white-space places -/
def exSp : Spacing := [(9, [9]), (10, []), (32, [13, 10])]

theorem exLay_text : exLay.textWith exSp = str "a\t\tb:nth-child(2n\n+ \r\n1)" := by decide +kernel

/-- by the theorem … -/
theorem exLay_from_text :
    (parse Gen.tables [] ((tokenize Gen.tables ⟨false, true⟩ (str "a\t\tb:nth-child(2n\n+ \r\n1)")).toks.map
      (fun k => (TT.ofString k.typ, k.val)))).spec = (0, 1, 2) := by
  rw [← exLay_text]
  exact (specificity_from_text_layout [] exLay exLay_wf exLay_names exSp (by decide +kernel)).2.2.trans (by decide +kernel)

/-- … and by running the executable models (a test, labelled as one) -/
example :
    (parse Gen.tables [] ((tokenize Gen.tables ⟨false, true⟩ (str "a\t\tb:nth-child(2n\n+ \r\n1)")).toks.map
      (fun k => (TT.ofString k.typ, k.val)))).spec = (0, 1, 2) := by decide +kernel

/-- the example selector of this file with `TAB LF blank` before and `CR FF` after the `>` -/
example :
    exSel.textWith [(9, [10, 32]), (13, [12])] =
      str "p|a#i.c[q|x~=\"v\"]:hover:nth-child(2n+1):not(.d)::after\t\n >\r\x0c*|b:not(|e):before" ∧
    (parse Gen.tables exNs ((tokenize Gen.tables ⟨false, true⟩
      (exSel.textWith [(9, [10, 32]), (13, [12])])).toks.map (fun k => (TT.ofString k.typ, k.val)))).spec = (1, 5, 5) :=
  ⟨by decide +kernel,
   (specificity_from_text_layout exNs exSel exSel_wf exSel_names _ (by decide +kernel)).2.2.trans exSel_spec⟩

/-! ### the condition on the spacing is needed; comments are a different matter (kernel-checked) -/

/-- `a b` -/
def exDesc : Sel := { first := tp (str "a"), rest := [(.descendant, ⟨false, false⟩, tp (str "b"))] }

/-- **the runs consist of white-space characters.**  With `x` for the blank the text is `axb`: one type
selector, specificity (0, 0, 1) instead of (0, 0, 2) -/
example : exDesc.NamesOK = true ∧ [((120, []) : Nat × Text)].all wsRunOK = false ∧ exDesc.spec = (0, 0, 2) ∧
    exDesc.textWith [(120, [])] = str "axb" ∧
    (parse Gen.tables [] ((tokenize Gen.tables ⟨false, true⟩ (exDesc.textWith [(120, [])])).toks.map
      (fun k => (TT.ofString k.typ, k.val)))).spec = (0, 0, 1) := by
  decide +kernel

/-- what `_setSelectorText` (model) says about a text -/
def verdictOf (m : NsMap) (t : String) : Bool × String × Spec :=
  let r := parse Gen.tables m ((tokenize Gen.tables ⟨false, true⟩ (str t)).toks.map (fun k => (TT.ofString k.typ, k.val)))
  (r.wellformed, r.firstErr, r.spec)

/-- **comments are not white space**: next to white space a comment is harmless (`a /**/ b`), alone it is
not a descendant combinator (`a/**/b` is rejected), and right after a namespace prefix it consumes the
prefix (`*|/**/a` is accepted as the type selector `a`; /repo re-serialises it as `/**/a`) -/
example : verdictOf [] "a /**/ b" = (true, "", (0, 0, 2)) ∧ verdictOf [] "a/**/b" = (false, "SyntaxErr", (0, 0, 1)) ∧
    verdictOf [] "*|/**/a" = (true, "", (0, 0, 1)) := by
  decide +kernel

end CssVerif.C16
