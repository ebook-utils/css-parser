/-
C13 — Encoded output always decodes and re-parses to the same sheet.

`Model/Escape.lean` transcribes `serialize._escapecss` (what the serialiser writes for a character the sheet's
encoding does not have) and specifies the reading of hex escapes by the tokenizer (`unicodesub`).

Proved, for texts of any length and any set of encodable characters: the written text contains only
characters the encoding has (if it has backslash, space and the hex digits — every ASCII-transparent
encoding; `written_is_encodable`), and, for texts without a backslash and with code points up to U+10FFFF,
reading it back gives exactly the original text (`read_back`): the terminating space is neither taken for
part of the text nor does it let a following hex digit glue to the escape, code points up to U+10FFFF need at
most six hex digits.

The reading specification `cssUnescape` is what the tokenizer model does: `unicodeSub_eq_cssUnescape`
(`Proofs/UnicodeSub.lean`) proves, on the regenerated table and for every text, that the model's
`re.sub(unicodesub, _repl, ·)` equals `cssUnescape`; `gen_unicodesub_shape` below states the shape of that
expression in terms of this file alone.
Tie: `escall` (model against `str.encode(enc, 'escapecss')` for ascii and latin-1) and `unesc` (the reading
specification against the real tokenizer's `unicodesub` on random strings of escapes).
Partial: that the serialised sheet starts with `@charset`, that the bytes decode under every supported
codec, that parsing them with no hint detects the encoding (detection itself is C14) and gives the same
object model — non-ASCII planted at every position that can hold it — are decided by the oracle on the
implementation.  One defect repaired: escapes in unknown at-keywords were not read back.
-/
import CssVerif.Proofs.Escape
import CssVerif.Proofs.ReStar
import CssVerif.Gen.Productions
namespace CssVerif.C13
open CssVerif.Escape
open CssVerif CssVerif.Re

/-! ### obligation on the regenerated table: the shape of the tokenizer's escape pattern.  `isHexC` is
`isHex` of the tokenizer model and `isCssWs` is `isWsC`, written out so that the statement can be read here;
the equality of the pattern's rewrite with `cssUnescape` is `unicodeSub_eq_cssUnescape`. -/

def isHexC (c : Nat) : Bool := (48 ≤ c && c ≤ 57) || (97 ≤ c && c ≤ 102) || (65 ≤ c && c ≤ 70)
def isCssWs (c : Nat) : Bool := c = 9 || c = 10 || c = 12 || c = 13 || c = 32

/-- `Tokenizer.unicodesub` as regenerated from /repo is: a backslash, one to six characters of a class that
holds exactly the hex digits, and optionally CR LF or one character of a class that holds exactly the five
CSS white-space characters (not Python's `\s`: no NBSP, no U+3000, no vertical tab) -/
theorem gen_unicodesub_shape : ∃ hex ws,
    Gen.unicodesub = .seq (.cls false [(92, 92)]) (.seq (.cls false hex)
      (.seq (.opt (.seq (.cls false hex) (.opt (.seq (.cls false hex) (.opt (.seq (.cls false hex)
        (.opt (.seq (.cls false hex) (.opt (.cls false hex))))))))))
      (.opt (.alt (.seq (.cls false [(13, 13)]) (.cls false [(10, 10)])) (.cls false ws))))) ∧
    (∀ c, clsMatch false hex c = isHexC c) ∧ (∀ c, clsMatch false ws c = isCssWs c) := by
  refine ⟨[(48, 57), (97, 102), (65, 70)], [(9, 9), (13, 13), (10, 10), (12, 12), (32, 32)], rfl, ?_, ?_⟩
  · intro c
    simp only [clsMatch, inRanges, isHexC, Bool.false_eq_true, if_false, Bool.or_false, Bool.or_assoc]
  · intro c
    simp only [clsMatch, inRanges_single, isCssWs, Bool.false_eq_true, if_false]
    simp only [inRanges, Bool.or_false]
    ac_rfl

theorem written_is_encodable (can : Nat → Bool) (t : Text) (h92 : can 92 = true) (h32 : can 32 = true)
    (hhex : ∀ d, d < 16 → can (hexDigit d) = true) (hu : ∀ c ∈ t, c ≤ 0x10FFFF) :
    ∀ x ∈ escapeAll can t, can x = true := escape_encodable can t h92 h32 hhex

theorem read_back (can : Nat → Bool) (t : Text) (hb : ∀ c ∈ t, c ≠ 92) (hu : ∀ c ∈ t, c ≤ 0x10FFFF) :
    cssUnescape (escapeAll can t) = t :=
  escape_roundtrip can t hb hu _ (by have := escapeAll_length_ge can t; omega)

/-- non-vacuity and the two delicate followers: a hex digit and a space right after an escaped character -/
example : escapeAll (· < 128) [233, 97, 233, 32, 0x10FFFF] =
    [92, 69, 57, 32, 97, 92, 69, 57, 32, 32, 92, 49, 48, 70, 70, 70, 70, 32] ∧
    cssUnescape (escapeAll (· < 128) [233, 97, 233, 32, 0x10FFFF]) = [233, 97, 233, 32, 0x10FFFF] := by decide +kernel

end CssVerif.C13
