/-
C04 — Malformed statements and declarations are skipped as a unit.

`Model/Upto.lean` transcribes `Base._tokensupto2` (util.py) in all its modes, the statement loop of
`CSSStyleSheet._setCssText` (the same loop runs over the body of `CSSMediaRule`), the declaration loop of
`CSSStyleDeclaration._setCssText` with its error recovery, and the order state the sheet keeps across
statements.  Tokens are abstracted to the classes those loops distinguish.

What is proved, for token lists of any length and nesting depth:
* `boundary`      — from the first token of a balanced statement the boundary finder returns exactly that
                    statement (prelude with properly nested (), [], function() groups and no `;`/`}` at depth 0,
                    then `;` or a `{…}` block with any balanced content) and leaves the rest untouched;
* `junk_is_a_unit`— so the statement loop is a homomorphism over concatenation: with a junk statement
                    between them, the neighbours reach their productions with exactly the tokens they have
                    without it;
* `nothing_ends_inside` — inside brackets nothing ends a statement, in any mode;
* `order_unaffected` — a rejected statement leaves the @charset/@import/@namespace order state alone, hence the
                    sheet parsed with the rejected statement is the sheet parsed without it (`sheet_unaffected`);
* `declaration_is_a_unit` — a declaration, well-formed or junk, whose first token is not EOF, S, `;`, COMMENT,
                    an at-keyword or a closing bracket (`declStart`) and whose brackets are balanced
                    (`Prel semicolon`) is delimited by its own `;` (nested brackets, `!`, strings inside do
                    not matter).
The behaviour of the pinned snapshot is kept as kernel-checked counterexamples (three repaired defects).

Tie: `upto` (all 13 modes, with and without start token), `split`, `dsplit`, `stmts` correspondences on token
streams of the real tokenizer, the real spans being recorded from the running parser.
Partial: that a production's verdict depends only on the tokens it is handed (and the order state) is what
the (good, junk, good) oracle checks on the implementation; the content of unknown rules ("tokens intact") too.
-/
import CssVerif.Proofs.Upto
namespace CssVerif.C04
open CssVerif CssVerif.Upto

/-- the boundary finder stops exactly at the end of a balanced statement -/
theorem boundary (s : TK) (tail rest : List TK) (hs : Stmt (s :: tail)) (hg : goodStart s = true) :
    upto true default (some s) (tail ++ rest) = (s :: tail, rest) := upto_stmt s tail rest hs hg

/-- inside brackets nothing can end a statement, in any mode -/
theorem nothing_ends_inside (m : Mode) (seg : List TK) (hb : Bal seg) (c : Cnt) (rest : List TK) (hc : Inside c) :
    scan m c (seg ++ rest) = (seg ++ (scan m c rest).1, (scan m c rest).2) := scan_inside m seg hb c rest hc

/-- (good, junk, good): the statements handed to the productions are the neighbours' own, junk or no junk -/
theorem junk_is_a_unit (g1 g2 : List (List TK)) (j : List TK) (h1 : ∀ it ∈ g1, Item it)
    (h2 : ∀ it ∈ g2, Item it) (hj : Item j) :
    splitAll true (g1.flatten ++ j ++ g2.flatten) = g1.flatMap out ++ out j ++ g2.flatMap out ∧
    splitAll true (g1.flatten ++ g2.flatten) = g1.flatMap out ++ g2.flatMap out := by
  have e2 : splitAll true g2.flatten = g2.flatMap out := by
    have := splitAll_items g2 h2 []
    simpa [splitAll, split] using this
  constructor
  · rw [List.append_assoc, splitAll_items g1 h1, splitAll_item j hj, e2, List.append_assoc]
  · rw [splitAll_items g1 h1, e2]

/-- a rejected statement does not change which rules may follow -/
theorem order_unaffected (a b : List SItem) (k : Sheet.Kind) (st : Nat × Sheet.Sheet) :
    stmts true (a ++ .stmt k none :: b) st = stmts true (a ++ b) st := by
  simp [stmts, List.foldl_append, sitemStep, stmtStep]

/-- … so the sheet parsed with a rejected statement in it is the sheet parsed without it -/
theorem sheet_unaffected (a b : List SItem) (k : Sheet.Kind) :
    parseStmts true (a ++ .stmt k none :: b) = parseStmts true (a ++ b) := by
  simp only [parseStmts, order_unaffected]

/-- a declaration is delimited by its own `;` -/
theorem declaration_is_a_unit (s : TK) (tail rest : List TK) (hs : declStart s = true)
    (hp : Prel semicolon (s :: tail)) :
    dsplitAll true (s :: tail ++ .semi :: rest) = (dkind s, s :: tail ++ [.semi]) :: dsplitAll true rest := by
  rw [dsplitAll, List.cons_append, List.length_cons, dsplit_start s hs, upto_decl s tail rest hs hp]
  exact congrArg _ (dsplit_fuel true _ _ rest (by simp; omega) (Nat.lt_succ_self _))

/-! the three repaired defects of the pinned snapshot -/

/-- a statement starting with a FUNCTION token swallowed everything after it -/
theorem snapshot_function_start :
    upto false default (some .func) [.other, .rparen, .lbrace, .rbrace, .other, .lbrace, .rbrace] =
      ([.func, .other, .rparen, .lbrace, .rbrace, .other, .lbrace, .rbrace], []) ∧
    upto true default (some .func) [.other, .rparen, .lbrace, .rbrace, .other, .lbrace, .rbrace] =
      ([.func, .other, .rparen, .lbrace, .rbrace], [.other, .lbrace, .rbrace]) := by decide +kernel

/-- a rejected rule-set in front of an @import made the import illegal -/
theorem snapshot_order :
    (stmts false [.stmt .style none, .ws, .stmt .import (some { kind := .import })] (0, [])).2 = [] ∧
    (stmts true [.stmt .style none, .ws, .stmt .import (some { kind := .import })] (0, [])).2 =
      [{ kind := .import }] := by
  decide +kernel

/-- `top:0; $ ! color: red; left:0` handed `color: red` to the property parser, and a junk declaration starting
with `(` swallowed the rest of the block -/
theorem snapshot_declaration :
    dsplitAll false [.other, .bang, .ident, .colon, .other, .semi, .ident, .colon, .other] =
      [(.ignored, [.other, .bang]), (.property, [.ident, .colon, .other, .semi]), (.property, [.ident, .colon, .other])] ∧
    dsplitAll true [.other, .bang, .ident, .colon, .other, .semi, .ident, .colon, .other] =
      [(.ignored, [.other, .bang, .ident, .colon, .other, .semi]), (.property, [.ident, .colon, .other])] ∧
    dsplitAll false [.lparen, .other, .rparen, .semi, .ident, .colon, .other] =
      [(.ignored, [.lparen, .other, .rparen, .semi, .ident, .colon, .other])] ∧
    dsplitAll true [.lparen, .other, .rparen, .semi, .ident, .colon, .other] =
      [(.ignored, [.lparen, .other, .rparen, .semi]), (.property, [.ident, .colon, .other])] := by
  decide +kernel

/-! ### non-vacuity: `f(x;[y]) $ "s" { a: (b;c) ; {d} }` is a statement starting with a FUNCTION token -/

def exInner : List TK := [.ident, .colon, .lparen, .other, .semi, .other, .rparen, .semi, .lbrace, .other, .rbrace]
def exPrel : List TK := [.func, .other, .semi, .lbracket, .other, .rbracket, .rparen, .other, .string]

theorem exInner_bal : Bal exInner := by
  refine .atom _ _ rfl (.atom _ _ rfl ?_)
  refine .group .lparen .rparen [.other, .semi, .other] _ rfl ?_ ?_
  · exact .atom _ _ rfl (.atom _ _ rfl (.atom _ _ rfl .nil))
  · refine .atom _ _ rfl ?_
    exact .group .lbrace .rbrace [.other] [] rfl (.atom _ _ rfl .nil) .nil

theorem exPrel_prel : Prel default exPrel := by
  refine .group .func .rparen [.other, .semi, .lbracket, .other, .rbracket] _ rfl rfl rfl ?_ ?_
  · refine .atom _ _ rfl (.atom _ _ rfl ?_)
    exact .group .lbracket .rbracket [.other] [] rfl (.atom _ _ rfl .nil) .nil
  · exact .atom _ _ rfl rfl (.atom _ _ rfl rfl .nil)

theorem exStmt : Stmt (exPrel ++ .lbrace :: (exInner ++ [.rbrace])) := .block exPrel exInner exPrel_prel exInner_bal

/-- `boundary` applied to that statement, followed by more tokens -/
theorem example_boundary :
    upto true default (some .func) ((exPrel.drop 1 ++ .lbrace :: (exInner ++ [.rbrace])) ++ [.ident, .lbrace, .rbrace]) =
      (exPrel ++ .lbrace :: (exInner ++ [.rbrace]), [.ident, .lbrace, .rbrace]) :=
  boundary .func (exPrel.drop 1 ++ TK.lbrace :: (exInner ++ [TK.rbrace])) [.ident, .lbrace, .rbrace]
    (show Stmt (TK.func :: (exPrel.drop 1 ++ TK.lbrace :: (exInner ++ [TK.rbrace]))) from exStmt) rfl

end CssVerif.C04
